/-
  C15 — invariant of the logger model and what follows from it.

  What `idxFrom` holds is read off one description of it in library terms (`idxFrom_eq`): number the issues, keep
  the pairs of the level asked for, project to the numbers.  Only the count identity is a separate induction.
-/
import Cellml.Logger.Model
import Cellml.Lists
namespace Cellml.Logger

theorem idxFrom_eq (l : Level) (is : List Level) (off : Nat) :
    idxFrom l off is = ((is.zipIdx off).filter (·.1 = l)).map (·.2) := by
  fun_induction idxFrom l off is with
  | case1 => rfl
  | case2 off xs ih => simp [ih]
  | case3 off x xs hne ih => simp [hne, ih]

theorem idxFrom_append (l : Level) (xs ys : List Level) (off : Nat) :
    idxFrom l off (xs ++ ys) = idxFrom l off xs ++ idxFrom l (off + xs.length) ys := by
  simp only [idxFrom_eq, List.zipIdx_append, List.filter_append, List.map_append]

theorem idx_concat (l x : Level) (is : List Level) :
    idx l (is ++ [x]) = idx l is ++ if x = l then [is.length] else [] := by
  simp [idx, idxFrom_append, idxFrom]

theorem mem_idxFrom (l : Level) : ∀ (is : List Level) (off i : Nat),
    i ∈ idxFrom l off is ↔ off ≤ i ∧ is[i - off]? = some l := by
  intro is off i
  rw [idxFrom_eq, ← List.mk_mem_zipIdx_iff_le_and_getElem?_sub]
  simp only [List.mem_map, List.mem_filter, decide_eq_true_eq, Prod.exists, exists_eq_right]

theorem mem_idx (l : Level) (is : List Level) (i : Nat) : i ∈ idx l is ↔ is[i]? = some l := by
  simp [idx, mem_idxFrom]

theorem idx_lt (l : Level) (is : List Level) (i : Nat) (h : i ∈ idx l is) : i < is.length :=
  (List.getElem?_eq_some_iff.mp ((mem_idx l is i).mp h)).1

theorem idxFrom_pairwise (l : Level) : ∀ (is : List Level) (off : Nat), (idxFrom l off is).Pairwise (· < ·) := by
  intro is off
  have := (List.filter_sublist (l := is.zipIdx off) (p := (·.1 = l))).map (·.2)
  rw [List.zipIdx_map_snd, ← idxFrom_eq] at this
  exact List.Pairwise.sublist this List.pairwise_lt_range'

theorem idx_nodup (l : Level) (is : List Level) : (idx l is).Nodup :=
  (idxFrom_pairwise l is 0).imp Nat.ne_of_lt

theorem idx_enumerates {xs : List Nat} {l : Level} {is : List Level} (h : xs = idx l is) (i : Nat) :
    (xs[i]?).bind (is[·]?) = (is.filter (· = l))[i]? := by
  -- both sides come from the `i`-th pair `q` of the filtered numbering: the left is `is[q.2]?`, the right `some q.1`
  have hfst : is.filter (· = l) = (is.zipIdx.filter (·.1 = l)).map (·.1) := by
    conv => lhs; rw [← List.zipIdx_map_fst 0 is, List.filter_map]
    rfl
  rw [h, idx, idxFrom_eq, hfst, List.getElem?_map, List.getElem?_map]
  cases hq : (is.zipIdx.filter (·.1 = l))[i]? with
  | none => rfl
  | some q => exact List.mem_zipIdx_iff_getElem?.mp (List.mem_filter.mp (List.mem_of_getElem? hq)).1

theorem idx_in_range {xs : List Nat} {l : Level} {is : List Level} (h : xs = idx l is) {i : Nat} (hi : i < xs.length) :
    ∃ p, xs[i]? = some p ∧ is[p]? = some l :=
  ⟨_, List.getElem?_eq_getElem hi, (mem_idx l is _).mp (h ▸ List.getElem_mem hi)⟩

theorem count_identity (is : List Level) (off : Nat) :
    is.length = (idxFrom .error off is).length + (idxFrom .warning off is).length + (idxFrom .message off is).length := by
  induction is generalizing off with
  | nil => rfl
  | cons x xs ih =>
    -- the head adds one position to the vector of its own level and none to the other two
    rw [List.length_cons, ih (off + 1)]
    cases x <;> simp only [idxFrom, reduceCtorEq, if_true, if_false, List.length_cons] <;> omega

theorem coherent_init : Coherent init := ⟨rfl, rfl, rfl⟩

theorem coherent_add (s : LState) (l : Level) (h : Coherent s) : Coherent (add s l) := by
  obtain ⟨he, hw, hm⟩ := h
  cases l <;> simp [add, Coherent, idx_concat, he, hw, hm]

theorem counts (s : LState) (h : Coherent s) :
    s.issues.length = s.errs.length + s.warns.length + s.msgs.length := by
  obtain ⟨he, hw, hm⟩ := h
  rw [he, hw, hm]
  exact count_identity _ 0

theorem removeError_breaks (s : LState) (k p : Nat) (h : Coherent s) (hk : s.errs[k]? = some p)
    (hp : p + 1 < s.issues.length) :
    ¬ Coherent { s with issues := s.issues.eraseIdx p, errs := s.errs.eraseIdx k } := by
  intro hc
  obtain ⟨he, hw, hm⟩ := h
  obtain ⟨he', hw', hm'⟩ := hc
  -- the position of the last issue stays in the index vector of its level, but after the erasure it points past the end
  obtain ⟨l, hl⟩ : ∃ l, s.issues[s.issues.length - 1]? = some l :=
    ⟨_, List.getElem?_eq_getElem (by omega)⟩
  have hin : s.issues.length - 1 ∈ idx l s.issues := (mem_idx _ _ _).mpr hl
  have hmem : s.issues.length - 1 ∈ idx l (s.issues.eraseIdx p) := by
    cases l with
    | error =>
      rw [← he] at hin
      rw [← he']
      obtain ⟨j, hj⟩ := List.getElem?_of_mem hin
      refine List.mem_eraseIdx_iff_getElem?.mpr ⟨j, ?_, hj⟩
      rintro rfl
      rw [hk, Option.some.injEq] at hj
      omega
    | warning => rwa [← hw', hw]
    | message => rwa [← hm', hm]
  have := idx_lt _ _ _ hmem
  rw [List.length_eraseIdx_of_lt (by omega)] at this
  omega

theorem removeError_keeps (s : LState) (k p : Nat) (h : Coherent s) (hk : s.errs[k]? = some p)
    (hp : p + 1 = s.issues.length) :
    Coherent { s with issues := s.issues.eraseIdx p, errs := s.errs.eraseIdx k } := by
  obtain ⟨issues, errs, warns, msgs⟩ := s
  simp only [Coherent] at h hk hp ⊢
  obtain ⟨rfl, rfl, rfl⟩ := h
  -- the issue list is `pre ++ [x]` with `p = pre.length`, and `x` is an error because `p` is an error position
  obtain ⟨pre, x, rfl⟩ : ∃ pre x, issues = pre ++ [x] :=
    ⟨_, _, (List.dropLast_concat_getLast (List.ne_nil_of_length_pos (by omega))).symm⟩
  obtain rfl : p = pre.length := by simpa using hp
  obtain rfl : x = .error := by simpa using (mem_idx _ _ _).mp (List.mem_of_getElem? hk)
  rw [idx_concat, if_pos rfl] at hk
  simp only [idx_concat, eraseIdx_length_concat]
  have herrs : (idx .error pre ++ [pre.length]).eraseIdx k = idx .error pre :=
    eraseIdx_concat_of_getElem? (fun hm => Nat.lt_irrefl _ (idx_lt _ _ _ hm)) hk
  exact ⟨herrs, by simp, by simp⟩

theorem removeError_coherent_iff (s : LState) (k p : Nat) (h : Coherent s) (hk : s.errs[k]? = some p) :
    Coherent { s with issues := s.issues.eraseIdx p, errs := s.errs.eraseIdx k } ↔ p + 1 = s.issues.length := by
  have hplt : p < s.issues.length := idx_lt .error _ _ (h.1 ▸ List.mem_of_getElem? hk)
  refine ⟨fun hc => ?_, removeError_keeps s k p h hk⟩
  rcases Nat.lt_or_ge (p+1) s.issues.length with hlt | hge
  · exact absurd hc (removeError_breaks s k p h hk hlt)
  · omega

theorem coherent_step (s s' : LState) (op : Op) (h : Coherent s) (hs : step s op = some s')
    (ht : removalOK s op = true) : Coherent s' := by
  cases op with
  | add l =>
    cases hs
    exact coherent_add s l h
  | removeAll =>
    cases hs
    exact coherent_init
  | removeError k =>
    revert hs
    show removeError s k = some s' → _
    fun_cases removeError s k with
    | case1 hnone => nofun
    | case2 p hk =>
      rintro ⟨⟩
      exact removeError_keeps s k p h hk (by simpa [removalOK, tailRemoval, hk] using ht)

theorem run_coherent (ops : List Op) : ∀ s : LState, Coherent s → tailRemovalsOnly s ops = true →
    ∃ s', run s ops = some s' ∧ Coherent s' := by
  induction ops with
  | nil => exact fun s h _ => ⟨s, rfl, h⟩
  | cons op ops ih =>
    intro s h ht
    simp only [tailRemovalsOnly, Bool.and_eq_true] at ht
    cases hs : step s op with
    | none => simp [hs] at ht
    | some s1 =>
      simp only [hs] at ht
      simpa [run, hs] using ih s1 (coherent_step s s1 op h hs ht.1) ht.2

/-! `Logger::error(i)` and its siblings test the index before they read; `[i]?` does that anyway.  The model returns
    the position: where the C++ reads `mIssues.at(position)`, which throws past the end (incoherent logger only), the
    statements read `issues[position]?` and get `none`. -/

theorem errorAt_eq (s : LState) (i : Nat) : errorAt s i = s.errs[i]? := ite_lt_getElem? _ i
theorem warningAt_eq (s : LState) (i : Nat) : warningAt s i = s.warns[i]? := ite_lt_getElem? _ i
theorem messageAt_eq (s : LState) (i : Nat) : messageAt s i = s.msgs[i]? := ite_lt_getElem? _ i

end Cellml.Logger
