/-
  C08 — evaluation in dependency order (`evalUpTo`, `valueAt`) for any step function: the unfolding equation and
  the induction `valueAt_rel` behind every statement about all entries.
-/
import Cellml.Units.Model
namespace Cellml.Units

theorem evalUpTo_length {α : Type} (f : (Nat → Option α) → Nat → Def → Option α) (env : List Def) (n : Nat) :
    (evalUpTo f env n).length = n := by
  fun_induction evalUpTo f env n with
  | case1 => rfl
  | case2 n t ih =>
    rw [List.length_append, ih]
    rfl

theorem evalUpTo_get_stable {α : Type} (f : (Nat → Option α) → Nat → Def → Option α) (env : List Def) (i n : Nat) :
    i < n → (evalUpTo f env n)[i]? = (evalUpTo f env (i + 1))[i]? := by
  fun_induction evalUpTo f env n with
  | case1 => exact fun h => absurd h (Nat.not_lt_zero i)
  | case2 n t ih =>
    intro h
    by_cases hi : i = n
    · subst hi
      rfl
    · have hlt : i < n := by omega
      have hlen : i < (evalUpTo f env n).length := Nat.lt_of_lt_of_eq hlt (evalUpTo_length f env n).symm
      rw [← ih hlt, List.getElem?_append_left hlen]

/-- the lookup an entry sees: the values of the earlier entries, nothing else -/
def lookBelow {α : Type} (f : (Nat → Option α) → Nat → Def → Option α) (env : List Def) (i : Nat) : Nat → Option α :=
  fun j => if j < i then valueAt f env j else none

theorem valueAt_unfold {α : Type} (f : (Nat → Option α) → Nat → Def → Option α) (env : List Def) (i : Nat) (d : Def)
    (hd : env[i]? = some d) : valueAt f env i = f (lookBelow f env i) i d := by
  -- entry `i` is produced at step `i + 1` from the first `i` rows, and later steps leave rows `≤ i` alone
  have hi : i < env.length := (List.getElem?_eq_some_iff.mp hd).1
  unfold valueAt table
  rw [evalUpTo_get_stable f env i env.length hi]
  simp only [evalUpTo]
  have hlen := evalUpTo_length f env i
  rw [List.getElem?_append_right (Nat.le_of_eq hlen)]
  simp only [evalUpTo_length, Nat.sub_self, List.getElem?_cons_zero, Option.join_some, hd]
  congr 1
  funext j
  unfold lookBelow
  by_cases hj : j < i
  · simp only [hj, if_true]
    unfold valueAt table
    rw [evalUpTo_get_stable f env j env.length (by omega), evalUpTo_get_stable f env j i hj]
  · simp only [hj, if_false]
    rw [List.getElem?_eq_none (by omega)]
    rfl

theorem valueAt_none {α : Type} (f : (Nat → Option α) → Nat → Def → Option α) (env : List Def) (i : Nat)
    (hi : env.length ≤ i) : valueAt f env i = none := by
  unfold valueAt table
  have hlen := evalUpTo_length f env env.length
  rw [List.getElem?_eq_none (by omega)]
  rfl

/-- Two evaluations (two step functions, two environments of one length) are related entry by entry once each step
    carries the relation from the lookups to the result.  For one environment `cases hd.symm.trans hd'` gives `d' = d`. -/
theorem valueAt_rel {α β : Type} (R : Option α → Option β → Prop) (hnone : R none none)
    {f : (Nat → Option α) → Nat → Def → Option α} {g : (Nat → Option β) → Nat → Def → Option β}
    {env env' : List Def} (hlen : env.length = env'.length)
    (hstep : ∀ i d d' lf lg, env[i]? = some d → env'[i]? = some d' → (∀ j, R (lf j) (lg j)) →
      R (f lf i d) (g lg i d')) :
    ∀ i, R (valueAt f env i) (valueAt g env' i) := by
  intro i
  induction i using Nat.strongRecOn with
  | ind i ih =>
    rcases Nat.lt_or_ge i env.length with hi | hi
    · have hd := List.getElem?_eq_getElem hi
      have hd' := List.getElem?_eq_getElem (hlen ▸ hi)
      rw [valueAt_unfold f env i _ hd, valueAt_unfold g env' i _ hd']
      refine hstep i _ _ _ _ hd hd' fun j => ?_
      unfold lookBelow
      split
      next hj => exact ih j hj
      next => exact hnone
    · rw [valueAt_none f env i hi, valueAt_none g env' i (hlen ▸ hi)]
      exact hnone

theorem valueAt_set_congr {α : Type} (f : (Nat → Option α) → Nat → Def → Option α) {env : List Def} {n : Nat}
    {d d' : Def} (hn : env[n]? = some d) (hstep : ∀ look, f look n d = f look n d') :
    ∀ i, valueAt f env i = valueAt f (env.set n d') i := by
  apply valueAt_rel Eq rfl (List.length_set ..).symm
  intro i e e' lf lg he he' hl
  obtain rfl : lf = lg := funext hl
  -- `(env.set n d')[i]?` splits on `n = i`, then on `n < env.length`, which `hn` settles
  rw [List.getElem?_set] at he'
  split at he'
  next hni =>
    subst hni
    rw [hn] at he
    split at he'
    next =>
      cases he
      cases he'
      exact hstep lf
    next => cases he'
  next =>
    rw [he] at he'
    cases he'
    rfl

theorem valueAt_of_step_look {α : Type} (f : (Nat → Option α) → Nat → Def → Option α) {env : List Def} {i j : Nat}
    {d : Def} (hd : env[i]? = some d) (hj : j < i) (hstep : ∀ look, f look i d = look j) :
    valueAt f env i = valueAt f env j := by
  rw [valueAt_unfold f env i d hd, hstep, lookBelow, if_pos hj]

end Cellml.Units
