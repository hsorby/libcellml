/-
  C08 — sums, comparison of vectors, what one evaluation step (`mStep`, `bStep`, `sStep`) does, the factor.
-/
import Cellml.Units.Eval
namespace Cellml.Units

theorem sumQ_append (xs ys : List Q) : sumQ (xs ++ ys) = sumQ xs + sumQ ys := by
  induction xs with
  | nil => exact (Rat.zero_add _).symm
  | cons x xs ih => rw [List.cons_append, sumQ, sumQ, ih, Rat.add_assoc]

theorem sumQ_perm {xs ys : List Q} (h : xs.Perm ys) : sumQ xs = sumQ ys := by
  induction h with
  | nil => rfl
  | cons x _ ih => rw [sumQ, sumQ, ih]
  | swap x y l => exact Rat.add_left_comm y x (sumQ l)
  | trans _ _ ih1 ih2 => exact ih1.trans ih2

theorem sumQ_map_mul (c : Q) (l : List Q) : sumQ (l.map (c * ·)) = c * sumQ l := by
  induction l with
  | nil => exact (Rat.mul_zero c).symm
  | cons x xs ih => rw [List.map_cons, sumQ, sumQ, ih, Rat.mul_add]

/-- `sameVec` compares below `nDims` only; that suffices, since standard units have dimensions below `nBase`
    (`C08_std_tables`). -/
theorem sameVec_iff (cx : Ctx) (env : List Def) (f g : Vec) :
    sameVec cx env f g = true ↔ ∀ k, k < nDims cx env → k ≠ cx.dimless → f k = g k := by
  unfold sameVec
  simp only [List.all_eq_true, List.mem_range, Bool.or_eq_true, decide_eq_true_eq, beq_iff_eq]
  exact ⟨fun h k hk hd => (h k hk).resolve_left hd, fun h k hk => Decidable.or_iff_not_imp_left.mpr (h k hk)⟩

theorem mStep_perm (cx : Ctx) (look : Nat → Option Q) (i : Nat) {cs cs' : List Child} (h : cs.Perm cs') :
    mStep cx look i (.compound cs) = mStep cx look i (.compound cs') := by
  simp only [mStep]
  rw [h.all_eq, sumQ_perm (h.map _)]

theorem bStep_perm (cx : Ctx) (look : Nat → Option Vec) (i : Nat) {cs cs' : List Child} (h : cs.Perm cs') :
    bStep cx look i (.compound cs) = bStep cx look i (.compound cs') := by
  -- `bStep` treats the empty list apart, so both lists are opened
  cases cs with
  | nil => rw [← h.nil_eq]
  | cons c r =>
    cases cs' with
    | nil => cases h.symm.nil_eq
    | cons c' r' =>
      simp only [bStep]
      rw [h.all_eq]
      split
      · congr 1
        funext k
        exact sumQ_perm (h.map _)
      · rfl

theorem mStep_indirect (cx : Ctx) (look : Nat → Option Q) (i j : Nat) :
    mStep cx look i (.compound [⟨.user j, 0, 1, 0⟩]) = look j := by
  simp only [mStep, childM, refM, List.all_cons, List.all_nil, Bool.and_true, List.map_cons, List.map_nil, sumQ]
  cases look j with
  | none => rfl
  | some v =>
    simp only [Option.map_some, Option.isSome_some, if_true, Option.getD_some]
    rw [Rat.mul_one, Rat.zero_add, Rat.add_zero, Rat.add_zero]

theorem bStep_indirect (cx : Ctx) (look : Nat → Option Vec) (i j : Nat) :
    bStep cx look i (.compound [⟨.user j, 0, 1, 0⟩]) = look j := by
  simp only [bStep, childB, refB, List.all_cons, List.all_nil, Bool.and_true, List.map_cons, List.map_nil, sumQ]
  cases look j with
  | none => rfl
  | some v => simp only [Option.map_some, Option.isSome_some, if_true, Option.getD_some, Rat.one_mul, Rat.add_zero]

theorem defined_together (cx : Ctx) (env : List Def) : ∀ a, (opM cx env a).isSome = (opB cx env a).isSome := by
  intro a
  cases a with
  | std i => simp [opM, opB, stdMult, stdVec]
  | null => rfl
  | user i =>
    refine valueAt_rel (fun (a : Option Q) (b : Option Vec) => a.isSome = b.isSome) (hnone := rfl) (hlen := rfl) ?_ i
    intro i d d' lq lv hd hd' hl
    cases hd.symm.trans hd'
    have hall : ∀ cs : List Child,
        (cs.all fun c => (childM cx lq c).isSome) = (cs.all fun c => (childB cx lv c).isSome) := by
      intro cs
      congr 1
      funext c
      simp only [childM, childB, Option.isSome_map]
      cases c.ref with
      | std k => simp [refM, refB, stdMult, stdVec]
      | user j => exact hl j
    -- the cases are those of `bStep`; `hall` makes the test of `mStep` the same test
    fun_cases bStep cx lv i d with
    | case1 => rfl
    | case2 cs _ hdefined =>
      rw [mStep, hall, if_pos hdefined]
      rfl
    | case3 cs _ hundefined =>
      rw [mStep, hall, if_neg hundefined]
      rfl
    | case4 j => exact hl j

/-- prefixes and multipliers sit on children of exponent 1 -/
def ExpOneCarriers (env : List Def) : Prop :=
  ∀ (i : Nat) (cs : List Child), env[i]? = some (Def.compound cs) →
    ∀ c ∈ cs, c.exp = 1 ∨ (c.lgMult = 0 ∧ c.pfx = 0)

/-- the code's `mult + m·exp + prefix` is the specification's `exp·(mult + prefix + m)` on such a child -/
theorem childM_eq_childS (cx : Ctx) (look : Nat → Option Q) (c : Child) (h : c.exp = 1 ∨ (c.lgMult = 0 ∧ c.pfx = 0)) :
    childM cx look c = childS cx look c := by
  simp only [childM, childS]
  cases refM cx look c.ref with
  | none => rfl
  | some b =>
    simp only [Option.map_some, Option.some.injEq]
    rcases h with h1 | ⟨h2, h3⟩
    · rw [h1, Rat.mul_one, Rat.one_mul, Rat.add_assoc, Rat.add_comm b, ← Rat.add_assoc]
    · rw [h2, h3, Rat.zero_add, Rat.add_zero, Rat.zero_add, Rat.zero_add, Rat.mul_comm]

theorem factorLog_eq_some_iff (cx : Ctx) (env : List Def) (a b : Operand) (z : Q) :
    factorLog cx env a b = some z ↔
      compatible cx env a b = true ∧ ∃ x y, opM cx env a = some x ∧ opM cx env b = some y ∧ z = y - x := by
  constructor
  · intro h
    unfold factorLog at h
    split at h
    next hcompatible =>
      split at h
      next x y hx hy => exact ⟨hcompatible, x, y, hx, hy, (Option.some.inj h).symm⟩
      next => cases h
    next => cases h
  · rintro ⟨hc, x, y, hx, hy, rfl⟩
    simp only [factorLog, hc, hx, hy, if_true]

end Cellml.Units
