/-
  C14 — what loading the groups does to the hierarchy map: an entry written for `c` survives the rest of the
  operations when nothing later gives `c` a parent (`foldl_gstep_not_child`), hence the hierarchy after loading is
  exactly the stated pairs on top of the start map when no component is given a parent twice
  (`foldl_gstep_eq_some_iff`).
-/
import Cellml.Legacy.Groups
namespace Cellml.Legacy

theorem foldl_gstep_not_child (ops : List GOp) : ∀ (m : PMap) (x : String), x ∉ children ops →
    ops.foldl (gstep true) m x = m x := by
  fun_induction children ops with
  | case1 => exact fun _ _ _ => rfl
  | case2 c p t ih =>
    intro m x hx
    rw [List.mem_cons, not_or] at hx
    rw [List.foldl_cons, ih _ x hx.2]
    exact if_neg hx.1
  | case3 r t ih => exact fun m x hx => ih _ x hx

theorem mem_children {c : String} {ops : List GOp} : c ∈ children ops ↔ ∃ p, GOp.set c p ∈ ops := by
  fun_induction children ops with
  | case1 => simp
  | case2 c' p' t ih =>
    rw [List.mem_cons, ih]
    constructor
    · rintro (rfl | ⟨p, hp⟩)
      · exact ⟨p', List.mem_cons_self⟩
      · exact ⟨p, List.mem_cons_of_mem _ hp⟩
    · rintro ⟨p, hp⟩
      rcases List.mem_cons.mp hp with h | h
      · exact Or.inl (GOp.set.inj h).1
      · exact Or.inr ⟨p, h⟩
  | case3 r t ih =>
    rw [ih]
    refine exists_congr fun p => ⟨List.mem_cons_of_mem _, fun hp => ?_⟩
    rcases List.mem_cons.mp hp with h | h
    · cases h
    · exact h

theorem foldl_gstep_eq_some_iff (ops : List GOp) (c p : String) : (children ops).Nodup → ∀ m : PMap,
    (ops.foldl (gstep true) m c = some p ↔ GOp.set c p ∈ ops ∨ (c ∉ children ops ∧ m c = some p)) := by
  fun_induction children ops with
  | case1 => simp
  | case2 c' p' t ih =>
    intro hnd m
    rw [List.nodup_cons] at hnd
    by_cases hc : c = c'
    · subst hc
      -- the entry just written survives, since `t` gives `c` no other parent
      have hnot : ∀ q, GOp.set c q ∉ t := fun q hq => hnd.1 (mem_children.mpr ⟨q, hq⟩)
      rw [List.foldl_cons, foldl_gstep_not_child t _ c hnd.1]
      simp [gstep, hnot, eq_comm]
    · rw [List.foldl_cons, ih hnd.2]
      simp [gstep, hc]
  | case3 r t ih => exact fun hnd m => by simpa [gstep] using ih hnd m

end Cellml.Legacy
