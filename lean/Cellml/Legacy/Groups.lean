/-
  C14 — the encapsulation hierarchy of a CellML 1.x model may be described by any number of groups (src/parser.cpp:
  loadModel() → loadEncapsulation() per group → loadComponentRef()).

  What the loading of a group does to the hierarchy, seen as a map child ↦ parent: every nested `component_ref` takes its
  component out of wherever it is and attaches it to the component of the enclosing `component_ref` (`set c p`); the
  component of a top-level `component_ref` is taken out as well and, once its children are attached, goes back to the
  parent an earlier group gave it (fix 24b05bd; before, `Model::addComponent` made it a top-level component again: `top r`
  cleared its parent).
-/
namespace Cellml.Legacy

inductive GOp
  | set (child parent : String)     -- a nested component_ref: child attached to parent
  | top (root : String)             -- a top-level component_ref has been loaded
  deriving DecidableEq, Repr

abbrev PMap := String → Option String

def gstep (fixed : Bool) (m : PMap) : GOp → PMap
  | .set c p => fun x => if x = c then some p else m x
  | .top r => if fixed then m else fun x => if x = r then none else m x

/-- all groups of the document, in document order, flattened to the sequence of operations -/
def grun (fixed : Bool) (ops : List GOp) : PMap := ops.foldl (gstep fixed) (fun _ => none)

/-- the children given a parent by the operations, in order -/
def children : List GOp → List String
  | [] => []
  | .set c _ :: t => c :: children t
  | .top _ :: t => children t

/-! ### from the nested `component_ref` elements of the groups to the operations -/

inductive Ref
  | mk (name : String) (kids : List Ref)
  deriving Repr

def Ref.name : Ref → String
  | .mk n _ => n

mutual
/-- `loadComponentRef`: for every child in turn, the child's own subtree, then the child attached to this component -/
def Ref.ops : Ref → List GOp
  | .mk n kids => Ref.opsKids n kids
def Ref.opsKids (n : String) : List Ref → List GOp
  | [] => []
  | k :: ks => k.ops ++ [GOp.set k.name n] ++ Ref.opsKids n ks
end

/-- `loadEncapsulation` for one group: its top-level component_refs in order -/
def groupOps (g : List Ref) : List GOp := g.flatMap fun r => r.ops ++ [GOp.top r.name]

/-- every group of the document, in document order -/
def docOps (gs : List (List Ref)) : List GOp := gs.flatMap groupOps

/-- one group `a ⊃ {d, b ⊃ c}` -/
def exOne : List GOp := [.set "d" "a", .set "c" "b", .set "b" "a", .top "a"]
/-- the same hierarchy in two groups: `a ⊃ {d, b}` then `b ⊃ c` -/
def exTwo : List GOp := [.set "d" "a", .set "b" "a", .top "a", .set "c" "b", .top "b"]

def exTreeOne : List (List Ref) := [[.mk "a" [.mk "d" [], .mk "b" [.mk "c" []]]]]
def exTreeTwo : List (List Ref) := [[.mk "a" [.mk "d" [], .mk "b" []]], [.mk "b" [.mk "c" []]]]
example : docOps exTreeOne = exOne ∧ docOps exTreeTwo = exTwo := by decide

end Cellml.Legacy
