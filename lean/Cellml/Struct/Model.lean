/-
  C17 — model of the declared structure of generated code: counts, info tables and their buffer sizes
  (`generateVariableInfoObjectCode`, `updateVariableInfoSizes`, `addImplementation*InfoCode`), and which helper
  functions are emitted (`addArithmeticFunctionsCode`, `addTrigonometricFunctionsCode` driven by the need-flags that
  `analyseNode` sets for every element it meets).
-/
import Cellml.Gen.Model
namespace Cellml.Struct
open Cellml.Gen

/-- an `AnalyserVariable` as the info tables see it; `ty`: 0 voi, 1 state, 2 constant, 3 computed constant, 4 algebraic, 5 external -/
structure Var where
  name : String
  units : String
  comp : String
  ty : Nat
  deriving Repr, DecidableEq

structure AModel where
  hasOdes : Bool
  voi : List Var        -- empty or one entry
  states : List Var
  vars : List Var
  deriving Repr

/-- the variables `generateVariableInfoObjectCode` walks over, in its order -/
def infoVars (m : AModel) : List Var := (if m.hasOdes then m.voi ++ m.states else []) ++ m.vars

structure Sizes where
  comp : Nat
  name : Nat
  units : Nat
  deriving Repr, DecidableEq

/-- `updateVariableInfoSizes`: byte length plus one for the terminator, maximum so far -/
def upd (s : Sizes) (v : Var) : Sizes :=
  ⟨max s.comp (v.comp.utf8ByteSize + 1), max s.name (v.name.utf8ByteSize + 1), max s.units (v.units.utf8ByteSize + 1)⟩

def sizes (m : AModel) : Sizes := (infoVars m).foldl upd ⟨0, 0, 0⟩

def stateCount (m : AModel) : Nat := m.states.length
def variableCount (m : AModel) : Nat := m.vars.length

/-- one info entry: (name, units, component, type) -/
def entry (v : Var) : String × String × String × Nat := (v.name, v.units, v.comp, v.ty)
def stateEntries (m : AModel) : List (String × String × String × Nat) := m.states.map entry
def variableEntries (m : AModel) : List (String × String × String × Nat) := m.vars.map entry

/-! ### helper functions -/

inductive Helper
  | eq | neq | lt | leq | gt | geq | and | or | xor | not | min | max
  | sec | csc | cot | sech | csch | coth | asec | acsc | acot | asech | acsch | acoth
  deriving DecidableEq, Repr

def Helper.all : List Helper :=
  [.eq, .neq, .lt, .leq, .gt, .geq, .and, .or, .xor, .not, .min, .max, .sec, .csc, .cot, .sech, .csch, .coth, .asec, .acsc, .acot,
   .asech, .acsch, .acoth]

/-- the need-flag `analyseNode` sets for an element of this type -/
def helperOf : Ty → Option Helper
  | .EQ => some .eq | .NEQ => some .neq | .LT => some .lt | .LEQ => some .leq | .GT => some .gt | .GEQ => some .geq
  | .AND => some .and | .OR => some .or | .XOR => some .xor | .NOT => some .not | .MIN => some .min | .MAX => some .max
  | .SEC => some .sec | .CSC => some .csc | .COT => some .cot | .SECH => some .sech | .CSCH => some .csch | .COTH => some .coth
  | .ASEC => some .asec | .ACSC => some .acsc | .ACOT => some .acot | .ASECH => some .asech | .ACSCH => some .acsch
  | .ACOTH => some .acoth
  | _ => none

def needsOf : Ast → List Helper
  | .node ty l r => (helperOf ty).toList ++ needsOf l ++ needsOf r
  | _ => []

/-- does the profile write this operation as an operator (then no function is needed)? -/
def hasOp (p : Profile) : Helper → Bool
  | .eq => p.hasEq | .neq => p.hasNeq | .lt => p.hasLt | .leq => p.hasLeq | .gt => p.hasGt | .geq => p.hasGeq
  | .and => p.hasAnd | .or => p.hasOr | .xor => p.hasXor | .not => p.hasNot
  | _ => false

/-- the name under which the generated expressions call the helper -/
def fname (p : Profile) : Helper → String
  | .eq => p.eq | .neq => p.neq | .lt => p.lt | .leq => p.leq | .gt => p.gt | .geq => p.geq
  | .and => p.and_ | .or => p.or_ | .xor => p.xor | .not => p.not_
  | .min => p.fn .MIN | .max => p.fn .MAX | .sec => p.fn .SEC | .csc => p.fn .CSC | .cot => p.fn .COT | .sech => p.fn .SECH
  | .csch => p.fn .CSCH | .coth => p.fn .COTH | .asec => p.fn .ASEC | .acsc => p.fn .ACSC | .acot => p.fn .ACOT
  | .asech => p.fn .ASECH | .acsch => p.fn .ACSCH | .acoth => p.fn .ACOTH

/-- the helpers emitted for a set of equations: needed, not an operator, and the profile has a body for it -/
def emitted (p : Profile) (hasBody : Helper → Bool) (asts : List Ast) : List Helper :=
  Helper.all.filter fun h => decide (h ∈ asts.flatMap needsOf) && !hasOp p h && hasBody h

/-- functions that need no definition in the generated file (math library) -/
def builtins (p : Profile) : List String :=
  [p.sqrt, p.square, p.power, p.ln, p.log10] ++
    [Ty.ABS, .EXP, .LN, .CEILING, .FLOOR, .REM, .SIN, .COS, .TAN, .SINH, .COSH, .TANH, .ASIN, .ACOS, .ATAN, .ASINH, .ACOSH, .ATANH].map p.fn

/-- function names called in a document -/
def calledFns : Doc → List String
  | .atom _ _ => []
  | .bin _ l r => calledFns l ++ calledFns r
  | .pre _ x => calledFns x
  | .call1 f a => f :: calledFns a
  | .call2 f a b => f :: (calledFns a ++ calledFns b)
  | .cond c a b => calledFns c ++ calledFns a ++ calledFns b
  | .paren d => calledFns d

end Cellml.Struct
