/-
  C17 — the declared structure of generated code.

  Buffer sizes: `updateVariableInfoSizes` over a list of variables keeps three running maxima (`foldl_upd`).

  Helper functions: every function the generated expressions call is a math-library function or a helper whose
  need-flag is set.  Everything is phrased as `Calls Q d`, "`Q` holds of every function the document calls", with
  `Q` a variable: that form passes unchanged through the document constructors.
-/
import Cellml.Struct.Model
namespace Cellml.Struct
open Cellml.Gen

theorem foldl_upd (vs : List Var) (s : Sizes) : vs.foldl upd s =
    ⟨vs.foldl (fun n v => max n (v.comp.utf8ByteSize + 1)) s.comp, vs.foldl (fun n v => max n (v.name.utf8ByteSize + 1)) s.name,
      vs.foldl (fun n v => max n (v.units.utf8ByteSize + 1)) s.units⟩ := by
  induction vs generalizing s with
  | nil => rfl
  | cons v vs ih => exact ih (upd s v)

abbrev Calls (Q : String → Prop) (d : Doc) : Prop := ∀ f ∈ calledFns d, Q f

variable {p : Profile} {Q : String → Prop}

theorem calledFns_wrap (b : Bool) (d : Doc) : calledFns (wrap b d) = calledFns d := by
  cases b <;> rfl

theorem calledFns_binop (k : PK) (o : Op) (l r : Ast) (ld rd : Doc) :
    calledFns (binop p k o l r ld rd) = calledFns ld ++ calledFns rd := by
  show calledFns (wrap _ ld) ++ calledFns (wrap _ rd) = _
  rw [calledFns_wrap, calledFns_wrap]

theorem wrap_calls {b : Bool} {d : Doc} (h : Calls Q d) : Calls Q (wrap b d) := by
  rwa [Calls, calledFns_wrap]

theorem binop_calls {k : PK} {o : Op} {l r : Ast} {ld rd : Doc} (hl : Calls Q ld) (hr : Calls Q rd) :
    Calls Q (binop p k o l r ld rd) := by
  rw [Calls, calledFns_binop]
  exact List.forall_mem_append.mpr ⟨hl, hr⟩

theorem call1_calls {g : String} {a : Doc} (hg : Q g) (ha : Calls Q a) : Calls Q (.call1 g a) :=
  List.forall_mem_cons.mpr ⟨hg, ha⟩

theorem call2_calls {g : String} {a b : Doc} (hg : Q g) (ha : Calls Q a) (hb : Calls Q b) : Calls Q (.call2 g a b) :=
  List.forall_mem_cons.mpr ⟨hg, List.forall_mem_append.mpr ⟨ha, hb⟩⟩

theorem ite_calls {c : Prop} [Decidable c] {a b : Doc} (ha : c → Calls Q a) (hb : ¬c → Calls Q b) :
    Calls Q (if c then a else b) :=
  iteInduction ha hb

theorem relLogic_calls {has : Bool} {k : PK} {o : Op} {l r : Ast} {ld rd : Doc} (ho : has = false → Q (p.opStr o))
    (hl : Calls Q ld) (hr : Calls Q rd) : Calls Q (relLogic p has k o l r ld rd) := by
  cases has
  · exact call2_calls (ho rfl) hl hr
  · exact binop_calls hl hr

theorem setElse_calls {d e : Doc} (hd : Calls Q d) (he : Calls Q e) : Calls Q (setElse d e) := by
  cases d with
  | cond c a b => exact List.forall_mem_append.mpr ⟨(List.forall_mem_append.mp hd).1, he⟩
  | _ => exact hd

theorem elseOf_calls {r : Ast} {rd : Doc} (hr : Calls Q rd) : Calls Q (elseOf p r rd) := by
  cases r with
  | nul => nofun
  | node rty a b => exact ite_calls (fun _ => setElse_calls hr nofun) (fun _ => hr)
  | _ => exact hr

/-- What a node calls beyond what its children call.  The cases are the groups of `generateCode`; every `exact`
    unfolds `genDoc` on the node by computation, and `hh _ rfl` finds the helper by computing `helperOf`.  The bare
    `.bin` of a logarithm, `pieceDoc` and the `.cond` in `setElse` are opened by `List.forall_mem_append`. -/
theorem node_calls {ty : Ty} {l r : Ast} (hb : ∀ f ∈ builtins p, Q f)
    (hh : ∀ h, helperOf ty = some h → hasOp p h = false → Q (fname p h))
    (hl : Calls Q (genDoc p l)) (hr : Calls Q (genDoc p r)) : Calls Q (genDoc p (.node ty l r)) := by
  have named : ∀ f ∈ [p.sqrt, p.square, p.power, p.ln, p.log10], Q f := fun f h => hb f (List.mem_append_left _ h)
  simp only [List.forall_mem_cons] at named
  obtain ⟨hsqrt, hsquare, hpower, hln, hlog10, -⟩ := named
  have lib {ty : Ty} (h : ty ∈ [Ty.ABS, .EXP, .LN, .CEILING, .FLOOR, .REM, .SIN, .COS, .TAN, .SINH, .COSH, .TANH, .ASIN,
      .ACOS, .ATAN, .ASINH, .ACOSH, .ATANH]) : Q (p.fn ty) :=
    hb (p.fn ty) (List.mem_append_right [p.sqrt, p.square, p.power, p.ln, p.log10] (List.mem_map_of_mem h))
  cases ty
  case EQ | NEQ | LT | LEQ | GT | GEQ | AND | OR | XOR => exact relLogic_calls (hh _ rfl) hl hr
  case NOT =>
    exact ite_calls (fun _ => wrap_calls hl) fun hn => call1_calls (hh _ rfl (Bool.eq_false_iff.mpr hn)) hl
  case SEC | CSC | COT | SECH | CSCH | COTH | ASEC | ACSC | ACOT | ASECH | ACSCH | ACOTH =>
    exact call1_calls (hh _ rfl rfl) hl
  case MIN | MAX => exact call2_calls (hh _ rfl rfl) hl hr
  case ABS | EXP | LN | CEILING | FLOOR | SIN | COS | TAN | SINH | COSH | TANH | ASIN | ACOS | ATAN | ASINH | ACOSH | ATANH =>
    exact call1_calls (lib (by decide)) hl
  case REM => exact call2_calls (lib (by decide)) hl hr
  case PLUS | MINUS => exact ite_calls (fun _ => wrap_calls hl) (fun _ => binop_calls hl hr)
  case TIMES | DIVIDE | EQUALITY => exact binop_calls hl hr
  case POWER =>
    exact ite_calls (fun _ => call1_calls hsqrt hl) fun _ =>
      ite_calls (fun _ => call1_calls hsquare hl) fun _ => call2_calls hpower hl hr
  case ROOT =>
    exact ite_calls (fun _ => call1_calls hsqrt hl) fun _ =>
      ite_calls (fun _ => call1_calls hsqrt hr) fun _ => call2_calls hpower hr (binop_calls nofun hl)
  case LOG =>
    exact ite_calls (fun _ => call1_calls hlog10 hl) fun _ =>
      ite_calls (fun _ => call1_calls hlog10 hr) fun _ =>
        List.forall_mem_append.mpr ⟨call1_calls hln hr, call1_calls hln hl⟩
  case PIECEWISE => exact setElse_calls hl (elseOf_calls hr)
  case PIECE => exact List.forall_mem_append.mpr ⟨List.forall_mem_append.mpr ⟨wrap_calls hr, wrap_calls hl⟩, nofun⟩
  case DEGREE | LOGBASE | BVAR | OTHERWISE => exact hl
  case TRUE | FALSE | E | PI | INF | NAN | DIFF => nofun

theorem calls_of (hb : ∀ f ∈ builtins p, Q f) (t : Ast) (hh : ∀ h ∈ needsOf t, hasOp p h = false → Q (fname p h)) :
    Calls Q (genDoc p t) := by
  induction t with
  | node ty l r ihl ihr =>
    simp only [needsOf, List.forall_mem_append] at hh
    obtain ⟨⟨hself, hl⟩, hr⟩ := hh
    exact node_calls hb (fun h e => hself h (Option.mem_toList.mpr e)) (ihl hl) (ihr hr)
  | _ => nofun

theorem mem_emitted {hasBody : Helper → Bool} {asts : List Ast} {h : Helper} :
    h ∈ emitted p hasBody asts ↔ (∃ t ∈ asts, h ∈ needsOf t) ∧ hasOp p h = false ∧ hasBody h = true := by
  have all : h ∈ Helper.all := by cases h <;> decide
  simp [emitted, all, and_assoc]

theorem calls_defined {hasBody : Helper → Bool} (hb : ∀ h, hasOp p h = false → hasBody h = true) {asts : List Ast} {t : Ast}
    (ht : t ∈ asts) : ∀ f ∈ calledFns (genDoc p t), f ∈ builtins p ∨ ∃ h ∈ emitted p hasBody asts, fname p h = f :=
  calls_of (fun _ h => .inl h) t fun h hn ho => .inr ⟨h, mem_emitted.mpr ⟨⟨t, ht, hn⟩, ho, hb h ho⟩, rfl⟩

end Cellml.Struct
