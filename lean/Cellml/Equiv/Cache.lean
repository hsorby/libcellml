/-
  C18 — the cached query refines the uncached one for every query history, provided the key
  separates pairs with different answers; the pair key does (the Cantor key: Props/C18).
-/
import Cellml.Equiv.Model
import Cellml.Lists
namespace Cellml.Equiv

/-- every cached entry is the uncached answer of some in-domain pair with that key -/
def CacheInv {κ : Type} (dom : Nat → Prop) (key : Nat → Nat → κ) (f : Nat → Nat → Bool) (c : Cache κ) : Prop :=
  ∀ k v, (k, v) ∈ c → ∃ a b, dom a ∧ dom b ∧ key a b = k ∧ f a b = v

/-- the key never identifies two in-domain pairs with different uncached answers -/
def KeyOK {κ : Type} (dom : Nat → Prop) (key : Nat → Nat → κ) (f : Nat → Nat → Bool) : Prop :=
  ∀ a b c d, dom a → dom b → dom c → dom d → key a b = key c d → f a b = f c d

theorem cachedQuery_correct {κ : Type} [BEq κ] [LawfulBEq κ] {dom : Nat → Prop} {key : Nat → Nat → κ}
    {f : Nat → Nat → Bool} (hk : KeyOK dom key f) {c : Cache κ} (hc : CacheInv dom key f c)
    (a b : Nat) (ha : dom a) (hb : dom b) :
    (cachedQuery key f c a b).1 = f a b ∧ CacheInv dom key f (cachedQuery key f c a b).2 := by
  fun_cases cachedQuery key f c a b with
  | case1 r hhit =>
    obtain ⟨a', b', ha', hb', hkey, hv⟩ := hc _ _ (lookup_mem hhit)
    -- a hit is the answer stored for a pair with the same key; by `KeyOK` it is the answer for `a b` too
    exact ⟨hv ▸ hk a' b' a b ha' hb' ha hb hkey, hc⟩
  | case2 hmiss =>
    refine ⟨rfl, fun k v hm => ?_⟩
    rcases List.mem_cons.mp hm with h | h
    · cases h
      exact ⟨a, b, ha, hb, rfl, rfl⟩
    · exact hc k v h

theorem runQueries_correct {κ : Type} [BEq κ] [LawfulBEq κ] {dom : Nat → Prop} {key : Nat → Nat → κ}
    {f : Nat → Nat → Bool} (hk : KeyOK dom key f) (qs : List (Nat × Nat)) (c : Cache κ) :
    CacheInv dom key f c → (∀ q ∈ qs, dom q.1 ∧ dom q.2) →
      runQueries key f c qs = qs.map (fun q => f q.1 q.2) := by
  fun_induction runQueries key f c qs with
  | case1 c =>
    intro _ _
    rfl
  | case2 c a b qs r c' heq ih =>
    intro hc hd
    obtain ⟨hq, hqs⟩ := List.forall_mem_cons.mp hd
    obtain ⟨h1, h2⟩ := cachedQuery_correct hk hc a b hq.1 hq.2
    rw [heq] at h1 h2
    rw [List.map_cons, ← h1, ih h2 hqs]

theorem pairKey_inj (x y z w : BitVec 64) (h : pairKey x y = pairKey z w) :
    (x = z ∧ y = w) ∨ (x = w ∧ y = z) := by
  revert h
  fun_cases pairKey x y <;> fun_cases pairKey z w <;> intro h <;> cases h
  -- `case1`: the pair is stored swapped, `case2`: as it stands
  case case1.case1 | case2.case2 => exact Or.inl ⟨rfl, rfl⟩
  case case1.case2 | case2.case1 => exact Or.inr ⟨rfl, rfl⟩

theorem pairKey_ok (dom : Nat → Prop) (addr : Nat → BitVec 64)
    (hinj : ∀ a b, dom a → dom b → addr a = addr b → a = b) (f : Nat → Nat → Bool)
    (hsymm : ∀ a b, dom a → dom b → f a b = f b a) :
    KeyOK dom (fun a b => pairKey (addr a) (addr b)) f := by
  intro a b c d ha hb hc hd h
  rcases pairKey_inj _ _ _ _ h with ⟨h1, h2⟩ | ⟨h1, h2⟩
  · rw [hinj a c ha hc h1, hinj b d hb hd h2]
  · rw [hinj a d ha hd h1, hinj b c hb hc h2]
    exact hsymm d c hd hc

end Cellml.Equiv
