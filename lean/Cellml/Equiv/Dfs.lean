/-
  C18 — the visited-list DFS decides reachability (both directions; fuel `n + 1` suffices); `hasEq` and `areEq` in
  terms of `Reach`.
-/
import Cellml.Equiv.Model
import Cellml.Lists
namespace Cellml.Equiv

theorem Reach.trans {adj} {a b c : Nat} (h1 : Reach adj a b) (h2 : Reach adj b c) : Reach adj a c := by
  induction h1 with
  | refl => exact h2
  | step hm _ ih => exact Reach.step hm (ih h2)

theorem Reach.symm {adj : Nat → List Nat} (hs : ∀ a b, b ∈ adj a → a ∈ adj b) {a b : Nat}
    (h : Reach adj a b) : Reach adj b a := by
  induction h with
  | refl a => exact Reach.refl a
  | step hm _ ih => exact Reach.trans ih (Reach.step (hs _ _ hm) (Reach.refl _))

theorem Reach.comm {adj : Nat → List Nat} (hs : ∀ a b, b ∈ adj a → a ∈ adj b) {a b : Nat} :
    Reach adj a b ↔ Reach adj b a := ⟨Reach.symm hs, Reach.symm hs⟩

theorem visitList_sound {adj : Nat → List Nat} {target : Nat} {rec : Nat → List Nat → Bool × List Nat}
    (hrec : ∀ e vis vis', rec e vis = (true, vis') → Reach adj e target) :
    ∀ es vis vis', visitList target rec es vis = (true, vis') → ∃ e ∈ es, Reach adj e target := by
  intro es vis
  fun_induction visitList target rec es vis with
  | case1 vis =>
    intro vis' h
    cases h
  | case2 e es vis hseen ih =>
    intro vis' h
    obtain ⟨e', he', hr⟩ := ih vis' h
    exact ⟨e', List.mem_cons_of_mem _ he', hr⟩
  | case3 e es vis hnew vis1 hfound =>
    intro vis' _
    exact ⟨e, List.mem_cons_self, hrec _ _ _ hfound⟩
  | case4 e es vis hnew vis1 hfail ih =>
    intro vis' h
    obtain ⟨e', he', hr⟩ := ih vis' h
    exact ⟨e', List.mem_cons_of_mem _ he', hr⟩

theorem visit_sound (adj : Nat → List Nat) (target : Nat) :
    ∀ fuel v vis vis', visit adj target fuel v vis = (true, vis') → Reach adj v target := by
  intro fuel
  induction fuel with
  | zero =>
    intro v vis vis' h
    cases h
  | succ n ih =>
    intro v vis vis' h
    unfold visit at h
    split at h
    next hv => exact hv ▸ Reach.refl _
    next =>
      obtain ⟨e, he, hr⟩ := visitList_sound ih _ _ _ h
      exact Reach.step he hr

/-- number of vertices of the universe `[0,n)` not yet visited -/
def unvis (n : Nat) (vis : List Nat) : Nat := ((List.range n).filter (fun u => decide (u ∉ vis))).length

theorem filter_length_mono {α} (p q : α → Bool) (h : ∀ x, p x = true → q x = true) :
    ∀ l : List α, (l.filter p).length ≤ (l.filter q).length := by
  intro l
  rw [← List.countP_eq_length_filter, ← List.countP_eq_length_filter]
  exact List.countP_mono_left fun x _ => h x

theorem unvis_mono {n : Nat} {vis vis' : List Nat} (h : ∀ u, u ∈ vis → u ∈ vis') : unvis n vis' ≤ unvis n vis := by
  apply filter_length_mono
  intro u hu
  simp only [decide_eq_true_eq] at hu ⊢
  exact fun hm => hu (h u hm)

theorem unvis_cons_lt {n v : Nat} {vis : List Nat} (hv : v < n) (hnv : v ∉ vis) : unvis n (v :: vis) < unvis n vis := by
  refine length_filter_lt _ _ _ v ?_ (List.mem_range.mpr hv) (decide_eq_true hnv) ?_
  · intro u hu
    exact decide_eq_true (mt (List.mem_cons_of_mem v) (of_decide_eq_true hu))
  · exact decide_eq_false (not_not_intro List.mem_cons_self)

/-- the post-condition of a failed search started from `vis`, ending in `vis'` -/
structure Post (adj : Nat → List Nat) (target : Nat) (vis vis' : List Nat) : Prop where
  mono : ∀ u, u ∈ vis → u ∈ vis'
  closed : ∀ u, u ∈ vis' → u ∉ vis → (u ≠ target ∧ ∀ w ∈ adj u, w ∈ vis')

theorem Post.refl {adj target vis} : Post adj target vis vis :=
  ⟨fun _ h => h, fun _ h hn => absurd h hn⟩

theorem Post.trans {adj target a b c} (h1 : Post adj target a b) (h2 : Post adj target b c) : Post adj target a c := by
  refine ⟨fun u hu => h2.mono u (h1.mono u hu), ?_⟩
  intro u huc hua
  by_cases hub : u ∈ b
  · obtain ⟨hne, hcl⟩ := h1.closed u hub hua
    exact ⟨hne, fun w hw => h2.mono w (hcl w hw)⟩
  · exact h2.closed u huc hub

/-- Specification assumed of the recursive call inside `visitList`.  `unvis n vis ≤ fuel` makes the fuel suffice:
    every call visits a vertex not visited before. -/
def RecSpec (adj : Nat → List Nat) (target n fuel : Nat) (rec : Nat → List Nat → Bool × List Nat) : Prop :=
  ∀ e vis vis', e < n → e ∉ vis → unvis n vis ≤ fuel → rec e vis = (false, vis') →
    Post adj target vis vis' ∧ e ∈ vis'

theorem visitList_complete {adj : Nat → List Nat} {target n fuel : Nat} {rec : Nat → List Nat → Bool × List Nat}
    (hrec : RecSpec adj target n fuel rec) :
    ∀ es vis vis', (∀ e ∈ es, e < n) → unvis n vis ≤ fuel → visitList target rec es vis = (false, vis') →
      Post adj target vis vis' ∧ ∀ e ∈ es, e ∈ vis' := by
  intro es vis
  fun_induction visitList target rec es vis with
  | case1 vis =>
    intro vis' _ _ h
    cases h
    exact ⟨Post.refl, fun e he => nomatch he⟩
  | case2 e es vis hseen ih =>
    intro vis' hb hf h
    obtain ⟨hp, hall⟩ := ih vis' (List.forall_mem_cons.mp hb).2 hf h
    exact ⟨hp, List.forall_mem_cons.mpr ⟨hp.mono _ hseen, hall⟩⟩
  | case3 e es vis hnew vis1 hfound => exact fun vis' _ _ h => nomatch h
  | case4 e es vis hnew vis1 hfail ih =>
    intro vis' hb hf h
    obtain ⟨hbe, hbes⟩ := List.forall_mem_cons.mp hb
    obtain ⟨hp1, he1⟩ := hrec e vis vis1 hbe hnew hf hfail
    obtain ⟨hp2, hall⟩ := ih vis' hbes (Nat.le_trans (unvis_mono hp1.mono) hf) h
    exact ⟨hp1.trans hp2, List.forall_mem_cons.mpr ⟨hp2.mono _ he1, hall⟩⟩

theorem visit_complete (adj : Nat → List Nat) (target n : Nat) (hadj : ∀ v, v < n → ∀ w ∈ adj v, w < n) :
    ∀ fuel, RecSpec adj target n fuel (visit adj target (fuel + 1)) := by
  intro fuel
  induction fuel with
  | zero =>
    intro e vis vis' he hne hf _
    have := unvis_cons_lt (n := n) he hne
    omega  -- no fuel: no unvisited vertex, but `e` is one
  | succ k ih =>
    intro v vis vis' hv hnv hf h
    unfold visit at h
    split at h
    next => cases h  -- `v` is the target
    next hvt =>
      have hlt := unvis_cons_lt (n := n) hv hnv
      have hf' : unvis n (v :: vis) ≤ k := by omega
      obtain ⟨hp, hall⟩ := visitList_complete ih (adj v) (v :: vis) vis' (hadj v hv) hf' h
      refine ⟨⟨fun u hu => hp.mono u (List.mem_cons_of_mem _ hu), ?_⟩, hp.mono v List.mem_cons_self⟩
      intro u hu hnu
      by_cases huv : u = v
      · subst huv
        exact ⟨hvt, hall⟩
      · exact hp.closed u hu (by simp [huv, hnu])

theorem closed_reach {adj : Nat → List Nat} {S : List Nat}
    (hcl : ∀ u, u ∈ S → ∀ w ∈ adj u, w ∈ S) :
    ∀ a b, Reach adj a b → a ∈ S → b ∈ S := by
  intro a b h
  induction h with
  | refl a => exact id
  | step hm _ ih =>
    intro ha
    exact ih (hcl _ ha _ hm)

/-- `Variable::hasEquivalentVariable(v, true)`-style query: DFS from `v` with an empty visited list -/
theorem dfs_correct (adj : Nat → List Nat) (n : Nat) (hadj : ∀ v, v < n → ∀ w ∈ adj v, w < n)
    (v target : Nat) (hv : v < n) :
    (visit adj target (n + 1) v []).1 = true ↔ Reach adj v target := by
  constructor
  · exact fun h => visit_sound adj target _ v [] _ (Prod.ext h rfl)
  · intro hreach
    cases hres : visit adj target (n + 1) v [] with
    | mk b vis' =>
      cases b with
      | true => rfl
      | false =>
        -- a failed search ends with a visited set that contains `v`, is closed under `adj` and lacks the target
        -- (`Post.closed` from `vis = []`): by `closed_reach` the target is not reachable
        exfalso
        have hfuel : unvis n [] ≤ n := by
          unfold unvis
          exact Nat.le_trans (List.length_filter_le _ _) (by simp)
        -- `RecSpec` for the fuel `n`, i.e. for `visit … (n + 1)`, at `e := v`, `vis := []`
        obtain ⟨hp, hvin⟩ :=
          visit_complete adj target n hadj (fuel := n) v [] vis' hv (List.not_mem_nil : v ∉ []) hfuel hres
        have hcl : ∀ u, u ∈ vis' → (u ≠ target ∧ ∀ w ∈ adj u, w ∈ vis') :=
          fun u hu => hp.closed u hu (by simp)
        have : target ∈ vis' := closed_reach (fun u hu => (hcl u hu).2) v target hreach hvin
        exact (hcl target this).1 rfl

theorem hasEq_iff (adj : Nat → List Nat) (n : Nat) (hadj : ∀ v, v < n → ∀ w ∈ adj v, w < n)
    (v other : Nat) (ho : other < n) :
    hasEq adj n v other = true ↔ v ≠ other ∧ Reach adj other v := by
  fun_cases hasEq adj n v other with
  | case1 h => simp [h]
  | case2 h => simpa [h] using dfs_correct adj n hadj other v ho  -- search from `other` for `v`

theorem areEq_iff (adj : Nat → List Nat) (n : Nat) (hadj : ∀ v, v < n → ∀ w ∈ adj v, w < n)
    (v1 v2 : Nat) (h2 : v2 < n) :
    areEq adj n v1 v2 = true ↔ Reach adj v2 v1 := by
  unfold areEq
  simp only [Bool.or_eq_true, decide_eq_true_eq]
  rw [hasEq_iff adj n hadj v1 v2 h2]
  constructor
  · rintro (h | ⟨_, h⟩)
    · subst h
      exact Reach.refl _
    · exact h
  · intro h
    by_cases he : v1 = v2
    · exact Or.inl he
    · exact Or.inr ⟨he, h⟩

end Cellml.Equiv
