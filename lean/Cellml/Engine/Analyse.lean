/-
  Engine `analyse` (C05 / C20): `(analyse (vars (v <type> <ext> <repComp>)*) (eqs (e <comp> (vars i*) (odes i*) (all i*) <lhs> <rhs>)*))`
  → `type <model type> vars <ty>:<idx|->,… eqs <ty>:<unknown>+…,… deps <equation>+…,…` (the equations each equation depends on)
-/
import Cellml.Analyser.Model
import Cellml.Wire
namespace Cellml.Engine.Analyse
open Cellml.Analyser Cellml.Wire

def parseVT : String → Option VT
  | "unknown" => some .unknown | "shouldBeState" => some .shouldBeState | "initialised" => some .initialised
  | "voi" => some .voi | "state" => some .state
  | _ => none

def showVT : VT → String
  | .unknown => "unknown" | .shouldBeState => "shouldBeState" | .initialised => "initialised" | .voi => "voi" | .state => "state"
  | .constant => "constant" | .ctc => "computed_constant" | .cvc => "computed_constant" | .initAlg => "algebraic"
  | .algebraic => "algebraic" | .overconstrained => "overconstrained"

def showET : ET → String
  | .unknown => "unknown" | .trueConstant => "true_constant" | .varConstant => "variable_based_constant" | .ode => "ode"
  | .nla => "nla" | .algebraic => "algebraic"

def showMT : MT → String
  | .ode => "ode" | .algebraic => "algebraic" | .nla => "nla" | .dae => "dae" | .underconstrained => "underconstrained"
  | .overconstrained => "overconstrained" | .unsuitably => "unsuitably_constrained"

def parseV : Sexp → Option V
  | .list [.atom "v", .atom ty, .atom ext, .atom rep] => do some { ty := ← parseVT ty, ext := ext = "1", rep := ← rep.toNat? }
  | _ => none

def nats : Sexp → Option (List Nat)
  | .list (.atom _ :: xs) => xs.mapM fun x => match x with | .atom a => a.toNat? | _ => none
  | _ => none

def parseSide : Sexp → Option Side
  | .atom "_" => some none
  | .list [.atom "ci", .atom i] => do some (some (← i.toNat?, false))
  | .list [.atom "diff", .atom i] => do some (some (← i.toNat?, true))
  | _ => none

def parseE : Sexp → Option E
  | .list [.atom "e", .atom c, vs, os, al, l, r] => do
    some { comp := ← c.toNat?, vars := ← nats vs, odes := ← nats os, all := ← nats al, lhs := ← parseSide l, rhs := ← parseSide r }
  | _ => none

def answer (line : String) : String :=
  match parseSexp line with
  | some (.list [.atom "analyse", .list (.atom "vars" :: vs), .list (.atom "eqs" :: es)]) =>
    match vs.mapM parseV, es.mapM parseE with
    | some vs, some es =>
      let s := analyse { vars := vs, eqs := es }
      let showIdx := fun (o : Option Nat) => match o with | some i => toString i | none => "-"
      let fi := finalIndices s.vars
      "type " ++ showMT (modelType s) ++ " vars " ++ ",".intercalate ((s.vars.zip fi).map fun (v, i) => (if v.ext then "external" else showVT v.ty) ++ ":" ++ showIdx i)
        ++ " eqs " ++ ",".intercalate (s.eqs.map fun e => showET e.ty ++ ":" ++ "+".intercalate (e.unknowns.map toString))
        ++ " deps " ++ ",".intercalate ((List.range s.eqs.length).map fun i => "+".intercalate ((eqDeps s i).map toString))
    | _, _ => "bad-line"
  | _ => "bad-line"

end Cellml.Engine.Analyse
