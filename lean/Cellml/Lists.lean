/-
  Facts about `List` that mention no model and that core does not state in the form needed: association lists,
  filters as termination measures, the pigeonhole and the bounded search for a free value behind both "first free
  name / identifier" loops, the injective rendering of the counter those loops run through (hexadecimal identifiers,
  decimal suffixes), overwriting one entry, folds.  Some serve several models, some one.
-/
namespace Cellml

theorem lookup_mem {α β : Type} [BEq α] [LawfulBEq α] {l : List (α × β)} {k : α} {v : β}
    (h : l.lookup k = some v) : (k, v) ∈ l := by
  obtain ⟨l₁, l₂, rfl, _⟩ := List.lookup_eq_some_iff.mp h
  simp

theorem lookup_mem_keys {α β : Type} [BEq α] [LawfulBEq α] {l : List (α × β)} {k : α} {v : β}
    (h : l.lookup k = some v) : k ∈ l.map (·.1) :=
  List.mem_map.mpr ⟨(k, v), lookup_mem h, rfl⟩

theorem exists_lookup {α β : Type} [BEq α] [LawfulBEq α] {l : List (α × β)} {k : α} (h : k ∈ l.map (·.1)) :
    ∃ p ∈ l, l.lookup k = some p.2 := by
  obtain ⟨q, hq, rfl⟩ := List.mem_map.mp h
  obtain ⟨b, hb⟩ := Option.isSome_iff_exists.mp (List.lookup_isSome_iff.mpr ⟨q, hq, beq_self_eq_true _⟩)
  exact ⟨(q.1, b), lookup_mem hb, hb⟩

/-- of the elements that pass a test, fewer pass a stronger test that one of them fails -/
theorem length_filter_lt {α : Type} (l : List α) (p q : α → Bool) (a : α)
    (hqp : ∀ x, q x = true → p x = true) (ha : a ∈ l) (hpa : p a = true) (hqa : q a = false) :
    (l.filter q).length < (l.filter p).length := by
  have hq : l.filter q = (l.filter p).filter q := by
    rw [List.filter_filter]
    exact List.filter_congr fun x _ => by
      cases h : q x with
      | false => rfl
      | true => simp [hqp x h]
  rw [hq]
  exact List.length_filter_lt_length_iff_exists.mpr ⟨a, List.mem_filter.mpr ⟨ha, hpa⟩, by simp [hqa]⟩

theorem length_filter_not_mem_lt {α : Type} [BEq α] [LawfulBEq α] (l : List α) {s t : List α} {a : α} (hst : s ⊆ t)
    (ha : a ∈ l) (hs : ¬ a ∈ s) (ht : a ∈ t) :
    (l.filter fun x => !t.contains x).length < (l.filter fun x => !s.contains x).length := by
  have hsub : ∀ x, (!t.contains x) = true → (!s.contains x) = true := by
    intro x hx
    have hxt : x ∉ t := by simpa using hx
    simpa using fun h => hxt (hst h)
  exact length_filter_lt l _ _ a hsub ha (by simpa using hs) (by simpa using ht)

/-- a one-to-one sequence leaves a list within `|l| + 1` steps -/
theorem exists_not_mem_of_injective {α : Type} (g : Nat → α) (hg : ∀ i j, g i = g j → i = j) (l : List α) :
    ∃ k, k < l.length + 1 ∧ g k ∉ l := by
  apply Classical.byContradiction
  intro hno
  have hnd : ((List.range (l.length + 1)).map g).Nodup :=
    List.pairwise_map.2 (List.pairwise_lt_range.imp fun hab h => Nat.ne_of_lt hab (hg _ _ h))
  have hsub : (List.range (l.length + 1)).map g ⊆ l := by
    intro x hx
    obtain ⟨k, hk, rfl⟩ := List.mem_map.mp hx
    exact Classical.byContradiction fun hn => hno ⟨k, List.mem_range.mp hk, hn⟩
  exact Nat.not_succ_le_self _ (by simpa using hnd.length_le_of_subset hsub)

/-- a search for a value of the one-to-one sequence `g` that is not in `l`: try `g k, g (k + 1), …`, stop at the first
    one that is free, or when the `f` steps are spent.  Given `|l|` steps or more it stops at the first free value.
    Stated for any `F` that satisfies the two equations of such a loop and answers `out n` where it stops at `g n`. -/
theorem search_free {α β : Type} [BEq α] [LawfulBEq α] (g : Nat → α) (hg : ∀ i j, g i = g j → i = j) (l : List α)
    (out : Nat → β) (F : Nat → Nat → β) (h0 : ∀ k, F 0 k = out k)
    (hs : ∀ f k, F (f + 1) k = if l.contains (g k) then F f (k + 1) else out k) (f k : Nat) (hf : l.length ≤ f) :
    ∃ n, F f k = out n ∧ k ≤ n ∧ g n ∉ l ∧ ∀ i, k ≤ i → i < n → g i ∈ l := by
  -- the last conjunct: the search stops on a value in use only when the steps are spent
  have loop : ∀ f k, ∃ n, F f k = out n ∧ k ≤ n ∧ (∀ i, k ≤ i → i < n → g i ∈ l) ∧ (g n ∈ l → n = k + f) := by
    intro f
    induction f with
    | zero => exact fun k => ⟨k, h0 k, Nat.le_refl k, fun i h1 h2 => absurd h1 (Nat.not_le_of_lt h2), fun _ => rfl⟩
    | succ f ih =>
      intro k
      rw [hs]
      split
      next hk =>
        obtain ⟨n, hn, hle, hbelow, hat⟩ := ih (k + 1)
        refine ⟨n, hn, Nat.le_of_succ_le hle, fun i hi hin => ?_, fun h => by rw [hat h, Nat.add_assoc, Nat.add_comm 1]⟩
        rcases Nat.eq_or_lt_of_le hi with rfl | hlt
        · exact List.contains_iff_mem.mp hk
        · exact hbelow i hlt hin
      next hk =>
        exact ⟨k, rfl, Nat.le_refl k, fun i h1 h2 => absurd h1 (Nat.not_le_of_lt h2),
          fun h => absurd (List.contains_iff_mem.mpr h) hk⟩
  obtain ⟨n, hn, hle, hbelow, hat⟩ := loop f k
  refine ⟨n, hn, hle, fun hin => ?_, hbelow⟩
  -- were `g n` in use, the steps would be spent with `g k, …, g (k + f)` all in `l`: one too many
  obtain ⟨j, hj, hfree⟩ :=
    exists_not_mem_of_injective (fun j => g (k + j)) (fun _ _ h => Nat.add_left_cancel (hg _ _ h)) l
  have hspent : n = k + f := hat hin
  rcases Nat.lt_or_ge (k + j) n with h | h
  · exact hfree (hbelow _ (Nat.le_add_right ..) h)
  · exact hfree ((by omega : n = k + j) ▸ hin)

/-- the digits of a number in base `b` determine it, when the digit characters below `b` are distinct -/
theorem toDigits_inj {b : Nat} (hb : 1 < b)
    (hd : ∀ x < b, ∀ y < b, Nat.digitChar x = Nat.digitChar y → x = y) :
    ∀ m n : Nat, Nat.toDigits b m = Nat.toDigits b n → m = n := by
  intro m
  induction m using Nat.strongRecOn with
  | _ m ih =>
    intro n h
    rw [Nat.toDigits_eq_if (n := m) hb, Nat.toDigits_eq_if (n := n) hb] at h
    by_cases hm : m < b <;> by_cases hn : n < b <;> simp only [hm, hn, if_true, if_false] at h
    · exact hd m hm n hn (by simpa using h)
    -- one digit against two or more, either way round: `toDigits` is never empty
    iterate 2 · simpa using congrArg List.length h
    · obtain ⟨hq, hr⟩ := List.append_inj' h rfl
      have hq := ih (m / b) (Nat.div_lt_self (by omega) hb) (n / b) hq
      have hr := hd _ (Nat.mod_lt _ (by omega)) _ (Nat.mod_lt _ (by omega)) (by simpa using hr)
      rw [← Nat.div_add_mod m b, hq, hr, Nat.div_add_mod]

theorem digitChar_inj16 : ∀ a < 16, ∀ b < 16, Nat.digitChar a = Nat.digitChar b → a = b := by
  decide +kernel

theorem natRepr_inj {m n : Nat} (h : Nat.repr m = Nat.repr n) : m = n :=
  toDigits_inj (b := 10) (by decide) (fun x hx y hy => digitChar_inj16 x (by omega) y (by omega)) m n
    (by rw [← Nat.toList_repr, ← Nat.toList_repr, h])

theorem ite_lt_getElem? {α} (xs : List α) (i : Nat) : (if i < xs.length then xs[i]? else none) = xs[i]? := by
  split
  · rfl
  · exact (List.getElem?_eq_none (by omega)).symm

theorem getD_mem {α : Type} {l : List α} {i : Nat} {d : α} (h : l.getD i d ≠ d) : l.getD i d ∈ l := by
  rw [List.getD_eq_getElem?_getD] at h ⊢
  cases hq : l[i]? with
  | none => simp [hq] at h
  | some x => exact List.mem_of_getElem? hq

theorem getD_set_ne {α : Type} (l : List α) (i j : Nat) (a : α) {d : α} (h : i ≠ j) :
    (l.set i a).getD j d = l.getD j d := by
  simp [List.getD_eq_getElem?_getD, List.getElem?_set_ne h]

theorem getD_set_self {α : Type} (l : List α) (i : Nat) (a : α) {d : α} (h : i < l.length) :
    (l.set i a).getD i d = a := by
  simp [List.getD_eq_getElem?_getD, List.getElem?_set_self h]

theorem getElem?_eq_some_getD {α : Type} {l : List α} {i : Nat} {d : α} (h : i < l.length) :
    l[i]? = some (l.getD i d) := by
  simp [List.getD_eq_getElem?_getD, h]

/-- overwriting a slot trades its old content for the new one -/
theorem cons_set_perm {α : Type} {l : List α} {i : Nat} {old : α} (h : l[i]? = some old) (a : α) :
    (old :: l.set i a).Perm (a :: l) := by
  induction l generalizing i with
  | nil => simp at h
  | cons y ys ih =>
    cases i with
    | zero =>
      rw [List.getElem?_cons_zero, Option.some.injEq] at h
      exact h ▸ List.Perm.swap ..
    | succ i => exact (List.Perm.swap ..).trans (((ih (by simpa using h)).cons y).trans (List.Perm.swap ..))

theorem set_perm {α : Type} [BEq α] [LawfulBEq α] {l : List α} {i : Nat} {old : α} (h : l[i]? = some old) (a : α) :
    (l.set i a).Perm (a :: l.erase old) :=
  (List.cons_perm_iff_perm_erase.mp (cons_set_perm h a)).2.trans <| by
    by_cases ha : a = old
    · subst ha
      rw [List.erase_cons_head]
      exact (List.perm_cons_erase (List.mem_of_getElem? h))
    · rw [List.erase_cons_tail (by simpa using ha)]

theorem eraseIdx_length_concat {α : Type} (xs : List α) (a : α) : (xs ++ [a]).eraseIdx xs.length = xs := by
  rw [List.eraseIdx_append_of_length_le (Nat.le_refl _), Nat.sub_self, List.eraseIdx_cons_zero, List.append_nil]

/-- the last element does not occur earlier, so an index at which it is found is the last one: erasing there drops it -/
theorem eraseIdx_concat_of_getElem? {α : Type} {xs : List α} {a : α} {k : Nat} (ha : a ∉ xs)
    (hk : (xs ++ [a])[k]? = some a) : (xs ++ [a]).eraseIdx k = xs := by
  rcases Nat.lt_trichotomy k xs.length with h | rfl | h
  · rw [List.getElem?_append_left h] at hk
    exact absurd (List.mem_of_getElem? hk) ha
  · exact eraseIdx_length_concat xs a
  · rw [List.getElem?_append_right (Nat.le_of_lt h), List.getElem?_singleton] at hk
    simp [Nat.sub_ne_zero_of_lt h] at hk

theorem mem_erase_iff_of_count_le_one {α : Type} [BEq α] [LawfulBEq α] {a c : α} {l : List α}
    (h : l.count a ≤ 1) : c ∈ l.erase a ↔ c ∈ l ∧ c ≠ a := by
  constructor
  · intro hc
    refine ⟨List.mem_of_mem_erase hc, fun hca => ?_⟩
    subst hca
    have := List.count_pos_iff.mpr hc
    rw [List.count_erase_self] at this
    omega
  · exact fun ⟨hc, hne⟩ => (List.mem_erase_of_ne hne).mpr hc

theorem split_at_mem {α : Type} [DecidableEq α] {a : α} {l : List α} (h : a ∈ l) :
    l = l.takeWhile (· ≠ a) ++ a :: (l.dropWhile (· ≠ a)).drop 1 := by
  induction l with
  | nil => cases h
  | cons c r ih =>
    by_cases hc : c = a
    · simp [hc]
    · simp only [List.takeWhile_cons, List.dropWhile_cons, ne_eq, hc, not_false_eq_true, decide_true, if_true,
        List.cons_append]
      rw [← ih ((List.mem_cons.mp h).resolve_left (Ne.symm hc))]

theorem head_append_of_ne_nil {α} {l r : List α} (h : l ≠ []) : (l ++ r).head? = l.head? := by
  cases l with
  | nil => exact absurd rfl h
  | cons a t => rfl

theorem getElem?_idxOf_of_lt {α : Type} [BEq α] [LawfulBEq α] (l : List α) (a : α) (h : l.idxOf a < l.length) :
    l[l.idxOf a]? = some a := by
  rw [List.getElem?_eq_getElem h]
  exact congrArg some (List.getElem_idxOf h)

theorem nodup_concat {α : Type} {l : List α} {x : α} (hl : l.Nodup) (hx : x ∉ l) : (l ++ [x]).Nodup := by
  refine List.nodup_append.mpr ⟨hl, by simp, fun a ha b hb he => ?_⟩
  rw [List.mem_singleton] at hb
  exact hx (hb ▸ he ▸ ha)

theorem any_or {α : Type} (p q : α → Bool) (l : List α) : l.any (fun x => p x || q x) = (l.any p || l.any q) := by
  induction l with
  | nil => rfl
  | cons a l ih => simp only [List.any_cons, ih]; cases p a <;> cases q a <;> simp

theorem all_congr_mem {β : Type} (l : List β) (p q : β → Bool) (h : ∀ x ∈ l, p x = q x) : l.all p = l.all q := by
  induction l with
  | nil => rfl
  | cons x xs ih =>
    simp only [List.all_cons]
    rw [h x List.mem_cons_self, ih (fun y hy => h y (List.mem_cons_of_mem _ hy))]

theorem length_le_length_flatMap {α : Type} (f : α → List α) (hf : ∀ a, f a ≠ []) (l : List α) :
    l.length ≤ (l.flatMap f).length := by
  induction l with
  | nil => exact Nat.le_refl 0
  | cons a l ih =>
    have := List.length_pos_iff.mpr (hf a)
    rw [List.flatMap_cons, List.length_append, List.length_cons]
    omega

/-- when `f` never yields the empty list, `flatMap f` leaves a list as it is only if it maps every element to itself:
    nothing later can make up for a longer piece -/
theorem flatMap_eq_self_iff {α : Type} (f : α → List α) (hf : ∀ a, f a ≠ []) (l : List α) :
    l.flatMap f = l ↔ ∀ a ∈ l, f a = [a] := by
  induction l with
  | nil => simp
  | cons a l ih =>
    rw [List.flatMap_cons, List.forall_mem_cons, ← ih]
    constructor
    · intro h
      have hlen := congrArg List.length h
      have hle := length_le_length_flatMap f hf l
      match hfa : f a with
      | [] => exact absurd hfa (hf a)
      | [x] =>
        rw [hfa, List.singleton_append, List.cons.injEq] at h
        exact ⟨by rw [h.1], h.2⟩
      | x :: y :: t =>
        rw [hfa] at hlen
        simp only [List.length_append, List.length_cons] at hlen
        omega
    · rintro ⟨h1, h2⟩
      rw [h1, h2, List.singleton_append]

/-- an element on which the step does nothing may be left out -/
theorem foldl_omit {σ α : Type} (f : σ → α → σ) (s : σ) (a : α) (p : Prop) [Decidable p] (h : p → f s a = s) :
    (if p then [] else [a]).foldl f s = f s a := by
  split
  · exact (h ‹p›).symm
  · rfl

theorem foldl_or {σ α : Type} (f : σ → α → σ) (g : σ → Bool) (q : α → Bool) (h : ∀ s a, g (f s a) = (g s || q a))
    (s : σ) (l : List α) : g (l.foldl f s) = (g s || l.any q) := by
  induction l generalizing s with
  | nil => simp
  | cons a l ih => rw [List.foldl_cons, ih, h, List.any_cons, Bool.or_assoc]

theorem foldl_max {α : Type} (f : α → Nat) {vs : List α} {a m : Nat} (h : vs.foldl (fun n v => max n (f v)) a = m) :
    a ≤ m ∧ (∀ v ∈ vs, f v ≤ m) ∧ (m = a ∨ ∃ v ∈ vs, m = f v) := by
  induction vs generalizing a with
  | nil => subst h; simp
  | cons w ws ih =>
    obtain ⟨h1, h2, h3⟩ := ih (a := max a (f w)) h
    refine ⟨Nat.le_trans (Nat.le_max_left ..) h1,
      List.forall_mem_cons.mpr ⟨Nat.le_trans (Nat.le_max_right ..) h1, h2⟩, ?_⟩
    rcases h3 with h3 | ⟨v, hv, h3⟩
    · rcases Nat.le_total (f w) a with c | c
      · exact .inl (h3.trans (Nat.max_eq_left c))
      · exact .inr ⟨w, .head _, h3.trans (Nat.max_eq_right c)⟩
    · exact .inr ⟨v, .tail _ hv, h3⟩

theorem filterMap_eq_self {α : Type} {f : α → Option α} : ∀ {l : List α}, (∀ x ∈ l, f x = some x) → l.filterMap f = l
  | [], _ => rfl
  | x :: xs, h => by
    rw [List.filterMap_cons_some (h x List.mem_cons_self),
      filterMap_eq_self fun y hy => h y (List.mem_cons_of_mem _ hy)]

theorem filterMap_idem {α : Type} (f : α → Option α) (h : ∀ x y, f x = some y → f y = some y) (l : List α) :
    (l.filterMap f).filterMap f = l.filterMap f :=
  filterMap_eq_self fun y hy => by
    obtain ⟨x, _, hxy⟩ := List.mem_filterMap.mp hy
    exact h x y hxy

end Cellml
