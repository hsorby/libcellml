/-
  C10 — matching up to permutation, and its relation to the greedy procedure.
-/
import Cellml.Equals.Greedy
namespace Cellml.Equals
variable {α : Type}

/-- `xs` and `ys` can be paired off one-to-one by `R` -/
def PermMatch (R : α → α → Prop) (xs ys : List α) : Prop := ∃ zs, zs.Perm ys ∧ All₂ R xs zs

variable {R S : α → α → Prop}

theorem All₂.length_eq {xs ys : List α} (h : All₂ R xs ys) : xs.length = ys.length := by
  induction h with
  | nil => rfl
  | cons _ _ ih => simp [ih]

theorem All₂.imp {xs ys : List α} (h : ∀ x ∈ xs, ∀ y ∈ ys, R x y → S x y) (ha : All₂ R xs ys) : All₂ S xs ys := by
  induction ha with
  | nil => exact .nil
  | cons hr _ ih =>
    exact .cons (h _ List.mem_cons_self _ List.mem_cons_self hr)
      (ih fun x hx y hy => h x (List.mem_cons_of_mem _ hx) y (List.mem_cons_of_mem _ hy))

theorem All₂.flip {xs ys : List α} (h : All₂ R xs ys) : All₂ (fun a b => R b a) ys xs := by
  induction h with
  | nil => exact .nil
  | cons hr _ ih => exact .cons hr ih

theorem All₂.refl (xs : List α) (h : ∀ x ∈ xs, R x x) : All₂ R xs xs := by
  induction xs with
  | nil => exact .nil
  | cons x xs ih => exact .cons (h x List.mem_cons_self) (ih fun y hy => h y (List.mem_cons_of_mem _ hy))

theorem All₂.trans {xs ys zs : List α} (h : All₂ R xs ys) (g : All₂ R ys zs)
    (ht : ∀ {a b c}, R a b → R b c → R a c) : All₂ R xs zs := by
  induction h generalizing zs with
  | nil => exact g
  | cons h1 _ ih =>
    cases g with
    | cons h2 t2 => exact .cons (ht h1 h2) (ih t2)

theorem All₂.eq_of_eq {xs ys : List α} (h : All₂ (· = ·) xs ys) : xs = ys := by
  induction h with
  | nil => rfl
  | cons h _ ih => rw [h, ih]

/-- what makes `PermMatch` symmetric and transitive -/
theorem All₂.perm_right {zs ys : List α} (hp : zs.Perm ys) :
    ∀ {xs : List α}, All₂ R xs zs → ∃ xs', xs'.Perm xs ∧ All₂ R xs' ys := by
  induction hp with
  | nil => exact fun h => ⟨_, .refl _, h⟩
  | cons z _ ih =>
    intro xs h
    cases h with
    | cons hr ht =>
      obtain ⟨xs', hp', ha⟩ := ih ht
      exact ⟨_ :: xs', hp'.cons _, .cons hr ha⟩
  | swap a b l =>
    intro xs h
    cases h with
    | cons hr1 ht1 =>
      cases ht1 with
      | cons hr2 ht2 => exact ⟨_, .swap _ _ _, .cons hr2 (.cons hr1 ht2)⟩
  | trans _ _ ih1 ih2 =>
    intro xs h
    obtain ⟨xs1, hp1, ha1⟩ := ih1 h
    obtain ⟨xs2, hp2, ha2⟩ := ih2 ha1
    exact ⟨xs2, hp2.trans hp1, ha2⟩

theorem PermMatch.length_eq {xs ys : List α} (h : PermMatch R xs ys) : xs.length = ys.length := by
  obtain ⟨zs, hp, ha⟩ := h
  rw [ha.length_eq, hp.length_eq]

theorem PermMatch.of_perm {xs ys : List α} (hp : xs.Perm ys) (h : ∀ x ∈ xs, R x x) : PermMatch R xs ys :=
  ⟨xs, hp, All₂.refl xs h⟩

theorem PermMatch.symm {xs ys : List α} (h : PermMatch R xs ys) (hs : ∀ {a b}, R a b → R b a) :
    PermMatch R ys xs := by
  obtain ⟨zs, hp, ha⟩ := h
  obtain ⟨xs', hp', ha'⟩ := ha.perm_right hp
  exact ⟨xs', hp', ha'.flip.imp fun _ _ _ _ => hs⟩

theorem PermMatch.imp {xs ys : List α} (h : ∀ x ∈ xs, ∀ y ∈ ys, R x y → S x y) (hm : PermMatch R xs ys) :
    PermMatch S xs ys := by
  obtain ⟨zs, hp, ha⟩ := hm
  exact ⟨zs, hp, ha.imp fun x hx y hy => h x hx y (hp.mem_iff.mp hy)⟩

theorem PermMatch.trans {xs ys zs : List α} (h1 : PermMatch R xs ys) (h2 : PermMatch R ys zs)
    (ht : ∀ {a b c}, R a b → R b c → R a c) : PermMatch R xs zs := by
  obtain ⟨ys', hp1, ha1⟩ := h1
  obtain ⟨zs', hp2, ha2⟩ := h2
  -- transport the matching of `ys` along `ys' ~ ys`, then compose with `ha1`
  obtain ⟨zs'', hp3, ha3⟩ := ha2.flip.perm_right hp1.symm
  exact ⟨zs'', hp3.trans hp2, ha1.trans ha3.flip ht⟩

theorem permMatch_eq_iff {xs ys : List α} : PermMatch (· = ·) xs ys ↔ xs.Perm ys := by
  constructor
  · rintro ⟨zs, hp, ha⟩
    rw [ha.eq_of_eq]
    exact hp
  · exact fun h => .of_perm h fun _ _ => rfl

/-- puts the test in the place of a decided `R` (`obtain rfl := eq_of_decides hr`) -/
theorem eq_of_decides {r : α → α → Bool} (hr : ∀ a b, r a b = true ↔ R a b) : (fun a b => r a b = true) = R :=
  funext fun a => funext fun b => propext (hr a b)

theorem equivalence_of_iff {r : α → α → Bool} (h : ∀ a b, r a b = true ↔ R a b) (E : Equivalence R) :
    (∀ a, r a a = true) ∧ (∀ a b, r a b = true → r b a = true) ∧
      (∀ a b c, r a b = true → r b c = true → r a c = true) := by
  obtain rfl := eq_of_decides h
  exact ⟨E.refl, fun _ _ => E.symm, fun _ _ _ => E.trans⟩

/-- what every `doEquals` does with a list of children — compare the sizes, then scan greedily — decides matching
    up to permutation, provided the test it scans with decides a symmetric and transitive relation -/
theorem greedy_iff {r : α → α → Bool} (hr : ∀ a b, r a b = true ↔ R a b) (hs : ∀ {a b}, R a b → R b a)
    (ht : ∀ {a b c}, R a b → R b c → R a c) (xs ys : List α) :
    (xs.length = ys.length ∧ greedy r xs ys = true) ↔ PermMatch R xs ys := by
  obtain rfl := eq_of_decides hr
  constructor
  · rintro ⟨hl, hg⟩
    exact greedy_sound r xs ys hl hg
  · intro h
    obtain ⟨zs, hp, ha⟩ := h
    exact ⟨PermMatch.length_eq ⟨zs, hp, ha⟩, greedy_complete r (fun _ _ => hs) (fun _ _ _ => ht) xs ys zs hp ha⟩

/-- the same with the test's arguments exchanged: a child component is asked `other->equals(mine)` -/
theorem greedy_flip_iff {r : α → α → Bool} (hr : ∀ a b, r a b = true ↔ R a b) (hs : ∀ {a b}, R a b → R b a)
    (ht : ∀ {a b c}, R a b → R b c → R a c) (xs ys : List α) :
    (xs.length = ys.length ∧ greedy (fun a b => r b a) xs ys = true) ↔ PermMatch R xs ys :=
  greedy_iff (fun a b => (hr b a).trans ⟨hs, hs⟩) hs ht xs ys

/-- matched lists have equally many elements in every class of the relation -/
theorem PermMatch.countP_eq {r : α → α → Bool} {xs ys : List α} (h : PermMatch (fun a b => r a b = true) xs ys)
    (hs : ∀ {a b}, r a b = true → r b a = true) (ht : ∀ {a b c}, r a b = true → r b c = true → r a c = true) (z : α) :
    xs.countP (r z) = ys.countP (r z) := by
  obtain ⟨zs, hp, ha⟩ := h
  refine Eq.trans ?_ (hp.countP_eq _)
  clear hp
  induction ha with
  | nil => rfl
  | @cons x y _ _ hxy _ ih =>
    have : r z x = r z y := Bool.eq_iff_iff.mpr ⟨fun h => ht h hxy, fun h => ht h (hs hxy)⟩
    rw [List.countP_cons, List.countP_cons, ih, this]

theorem permMatch_cancel {r : α → α → Bool} {R : α → α → Prop} (hr : ∀ a b, r a b = true ↔ R a b) (E : Equivalence R)
    {x y : α} {l : List α} (h : PermMatch R (x :: l) (y :: l)) : R x y := by
  obtain rfl := eq_of_decides hr
  -- count the class of `x`: `l` gives the same on both sides and `x` one, so `y` gives one
  have := h.countP_eq E.symm E.trans x
  simp only [List.countP_cons, E.refl x, if_true] at this
  cases hxy : r x y with
  | true => rfl
  | false => simp [hxy] at this

end Cellml.Equals
