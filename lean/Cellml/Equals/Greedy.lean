/-
  C10 — the greedy one-to-one matching used by every `doEquals` (scan the unmatched entries of the
  other side in order, erase the first match) is sound, and complete against an equivalence relation.
-/
namespace Cellml.Equals

variable {α : Type}

def removeFirst (p : α → Bool) : List α → Option (List α)
  | [] => none
  | y :: ys => if p y then some ys else (removeFirst p ys).map (y :: ·)

def greedy (r : α → α → Bool) : List α → List α → Bool
  | [], _ => true
  | x :: xs, ys =>
    match removeFirst (r x) ys with
    | none => false
    | some ys' => greedy r xs ys'

theorem removeFirst_some {p : α → Bool} {ys ys' : List α} (h : removeFirst p ys = some ys') :
    ∃ y, p y = true ∧ (y :: ys').Perm ys := by
  fun_induction removeFirst p ys generalizing ys' with
  | case1 => cases h
  | case2 y ys hpass =>
    cases h
    exact ⟨y, hpass, .refl _⟩
  | case3 a as hfail ih =>
    obtain ⟨zs, hr, rfl⟩ := Option.map_eq_some_iff.mp h
    obtain ⟨y, hy, hperm⟩ := ih hr
    exact ⟨y, hy, (List.Perm.swap a y zs).trans (hperm.cons a)⟩

theorem removeFirst_none {p : α → Bool} {ys : List α} (h : removeFirst p ys = none) :
    ∀ y ∈ ys, p y = false := by
  fun_induction removeFirst p ys with
  | case1 => exact fun _ hy => nomatch hy
  | case2 y ys hpass => cases h
  | case3 a as hfail ih =>
    exact List.forall_mem_cons.mpr ⟨(Bool.not_eq_true _).mp hfail, ih (Option.map_eq_none_iff.mp h)⟩

theorem removeFirst_congr {p q : α → Bool} {ys : List α} (h : ∀ y ∈ ys, p y = q y) :
    removeFirst p ys = removeFirst q ys := by
  induction ys with
  | nil => rfl
  | cons y ys ih =>
    obtain ⟨hy, hys⟩ := List.forall_mem_cons.mp h
    simp only [removeFirst, hy, ih hys]

theorem greedy_congr {r s : α → α → Bool} (xs ys : List α) (h : ∀ x ∈ xs, ∀ y ∈ ys, r x y = s x y) :
    greedy r xs ys = greedy s xs ys := by
  induction xs generalizing ys with
  | nil => rfl
  | cons x xs ih =>
    obtain ⟨hx, hxs⟩ := List.forall_mem_cons.mp h
    simp only [greedy, removeFirst_congr hx]
    split
    next => rfl
    next ys' hr =>
      obtain ⟨_, _, hperm⟩ := removeFirst_some hr
      exact ih ys' fun a ha b hb => hxs a ha b (hperm.mem_iff.mp (List.mem_cons_of_mem _ hb))

/-- `List.Forall₂` of Batteries; core has none -/
inductive All₂ (R : α → α → Prop) : List α → List α → Prop
  | nil : All₂ R [] []
  | cons {x z xs zs} : R x z → All₂ R xs zs → All₂ R (x :: xs) (z :: zs)

theorem greedy_sound (r : α → α → Bool) : ∀ (xs ys : List α), xs.length = ys.length → greedy r xs ys = true →
    ∃ zs : List α, zs.Perm ys ∧ All₂ (fun x z => r x z = true) xs zs := by
  intro xs ys hl h
  fun_induction greedy r xs ys with
  | case1 ys =>
    cases ys with
    | nil => exact ⟨[], .refl _, .nil⟩
    | cons _ _ => cases hl
  | case2 x xs ys hnone => cases h
  | case3 x xs ys ys' hsome ih =>
    obtain ⟨y, hy, hperm⟩ := removeFirst_some hsome
    obtain ⟨zs, hz, hf⟩ := ih (Nat.succ.inj (hl.trans hperm.length_eq.symm)) h
    exact ⟨y :: zs, (hz.cons y).trans hperm, .cons hy hf⟩

theorem All₂.append {R : α → α → Prop} : ∀ {xa la xb lb : List α}, All₂ R xa la → All₂ R xb lb → All₂ R (xa ++ xb) (la ++ lb) := by
  intro _ _ _ _ h g
  induction h with
  | nil => exact g
  | cons hr _ ih => exact .cons hr ih

theorem All₂.split {R : α → α → Prop} : ∀ {xs l1 : List α} {y : α} {l2 : List α}, All₂ R xs (l1 ++ y :: l2) →
    ∃ xa xj xb, xs = xa ++ xj :: xb ∧ All₂ R xa l1 ∧ R xj y ∧ All₂ R xb l2 := by
  intro xs l1
  induction l1 generalizing xs with
  | nil =>
    intro y l2 h
    cases h with
    | cons hr ht => exact ⟨[], _, _, rfl, All₂.nil, hr, ht⟩
  | cons a l1 ih =>
    intro y l2 h
    cases h with
    | cons hr ht =>
      obtain ⟨xa, xj, xb, he, ha, hj, hb⟩ := ih ht
      exact ⟨_ :: xa, xj, xb, congrArg (_ :: ·) he, .cons hr ha, hj, hb⟩

theorem removeFirst_isSome_of_mem {p : α → Bool} {ys : List α} {z : α} (hz : z ∈ ys) (hp : p z = true) :
    ∃ ys', removeFirst p ys = some ys' := by
  cases h : removeFirst p ys with
  | some ys' => exact ⟨ys', rfl⟩
  | none =>
    rw [removeFirst_none h z hz] at hp
    cases hp

theorem greedy_complete (r : α → α → Bool)
    (hsymm : ∀ a b, r a b = true → r b a = true)
    (htrans : ∀ a b c, r a b = true → r b c = true → r a c = true) :
    ∀ (xs ys zs : List α), zs.Perm ys → All₂ (fun x z => r x z = true) xs zs → greedy r xs ys = true := by
  intro xs
  induction xs with
  | nil =>
    intro ys zs _ _
    rfl
  | cons x xs ih =>
    intro ys zs hperm hall
    cases hall with
    | @cons _ z _ zs' hxz hrest =>
      have hzmem : z ∈ ys := hperm.mem_iff.mp (List.mem_cons_self)
      obtain ⟨ys', hr⟩ := removeFirst_isSome_of_mem hzmem hxz
      obtain ⟨y, hxy, hyperm⟩ := removeFirst_some hr
      unfold greedy
      simp only [hr]
      have hp2 : (z :: zs').Perm (y :: ys') := hperm.trans hyperm.symm
      have hymem : y ∈ z :: zs' := hp2.mem_iff.mpr (List.mem_cons_self)
      cases hymem with
      | head => exact ih ys' zs' hp2.cons_inv hrest
      | tail _ hm =>
        -- exchange: the scan took `y` for `x` where the matching has `z`; the `xj` matched with `y` takes `z`
        -- instead, to which it is related through `y` and `x`
        obtain ⟨l1, l2, rfl⟩ := List.append_of_mem hm
        obtain ⟨xa, xj, xb, rfl, ha, hj, hb⟩ := All₂.split hrest
        have hxjz : r xj z = true := htrans _ _ _ (htrans _ _ _ hj (hsymm _ _ hxy)) hxz
        have h1 : (y :: (l1 ++ z :: l2)).Perm (z :: (l1 ++ y :: l2)) :=
          ((List.perm_middle.cons y).trans (.swap z y _)).trans (List.perm_middle.symm.cons z)
        exact ih ys' _ (h1.trans hp2).cons_inv (ha.append (.cons hxjz hb))

end Cellml.Equals
