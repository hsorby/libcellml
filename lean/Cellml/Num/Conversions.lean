/-
  C16 — accepted text satisfies the preconditions of `std::stod` / `std::stoi`; a basic real does not begin with `+`.
-/
import Cellml.Num.Grammar
namespace Cellml.Num

theorem mantissa_shape {b : List Char} (h : SpecMantissa b) :
    (∃ c r, b = c :: r ∧ isDigit c = true) ∨ (∃ d r, b = '.' :: d :: r ∧ isDigit d = true) := by
  obtain ⟨hchars, hcount, x, hx, hxd⟩ := h
  cases b with
  | nil => cases hx
  | cons c r =>
    rcases hchars c List.mem_cons_self with hc | rfl
    · exact Or.inl ⟨c, r, rfl, hc⟩
    · -- the one point is spent, so the digit `x` is in `r` and `r` does not begin with a point
      have hnd : '.' ∉ r := List.count_eq_zero.mp (by rw [List.count_cons_self] at hcount; omega)
      have hxr : x ∈ r := (List.mem_cons.mp hx).resolve_left (isDigit_ne hxd rfl)
      cases r with
      | nil => cases hxr
      | cons d r' =>
        exact Or.inr ⟨d, r', rfl,
          (hchars d (List.mem_cons_of_mem _ List.mem_cons_self)).resolve_right fun hd => hnd (hd ▸ List.mem_cons_self)⟩

/-- in front of a digit or a point `strtod` / `strtol` skip nothing and strip exactly the grammar's sign -/
theorem strip_sign {sign t : List Char} {c : Char} (hs : sign = [] ∨ sign = ['-'] ∨ sign = ['+'])
    (hc : isDigit c = true ∨ c = '.') : dropSign ((sign ++ c :: t).dropWhile isSpace) = c :: t := by
  rcases hs with rfl | rfl | rfl
  · obtain ⟨hsp, h1, h2⟩ : isSpace c = false ∧ c ≠ '-' ∧ c ≠ '+' := by
      rcases hc with h | rfl
      · exact ⟨isDigit_not_space h, isDigit_ne h rfl, isDigit_ne h rfl⟩
      · decide
    simp [hsp, dropSign, h1, h2]
  · have : isSpace '-' = false := by decide
    simp [this, dropSign]
  · have : isSpace '+' = false := by decide
    simp [this, dropSign]

theorem stodAccepts_of_basic_prefix {s rest : List Char} (h : SpecBasicReal s) :
    stodAccepts (s ++ rest) = true := by
  obtain ⟨sign, b, hs, rfl, hb⟩ := h
  have hs' := hs.imp_right (Or.inl (b := sign = ['+']))
  rcases mantissa_shape hb with ⟨c, r, rfl, hc⟩ | ⟨d, r, rfl, hd⟩
  · rw [stodAccepts, List.append_assoc, List.cons_append, strip_sign hs' (Or.inl hc)]
    cases r ++ rest <;> simp [hc]
  · rw [stodAccepts, List.append_assoc, List.cons_append, List.cons_append, strip_sign hs' (Or.inr rfl)]
    simp [hd]

theorem stodAccepts_of_specReal {s : List Char} (h : SpecReal s) : stodAccepts s = true := by
  rcases h with h | ⟨sig, e, ex, _, rfl, hsig, _⟩
  · simpa using stodAccepts_of_basic_prefix (rest := []) h
  · exact stodAccepts_of_basic_prefix hsig

theorem stoiAccepts_of_specInt {s : List Char} (h : SpecInt s) : stoiAccepts s = true := by
  obtain ⟨sign, ds, hs, rfl, hne, hd⟩ := h
  cases ds with
  | nil => exact absurd rfl hne
  | cons c r =>
    have hc := hd c List.mem_cons_self
    rw [stoiAccepts, strip_sign hs (Or.inl hc)]
    exact hc

/-- guard = recogniser = grammar, and the grammar meets the precondition: `throws` is never reached -/
theorem convertToDoubleClass_eq (s : List Char) :
    convertToDoubleClass s = if cellmlReal s then .converts else .rejected := by
  fun_cases convertToDoubleClass s with
  | case1 h hs => rw [if_pos h]
  | case2 h hthrows => exact absurd (stodAccepts_of_specReal ((cellmlReal_iff s).mp h)) hthrows
  | case3 h => rw [if_neg h]

theorem convertToIntClass_eq (s : List Char) :
    convertToIntClass s = if cellmlInt s then .converts else .rejected := by
  fun_cases convertToIntClass s with
  | case1 h hs => rw [if_pos h]
  | case2 h hthrows => exact absurd (stoiAccepts_of_specInt ((cellmlInt_iff s).mp h)) hthrows
  | case3 h => rw [if_neg h]

theorem plus_not_mantissa_char : ¬ (isDigit '+' = true ∨ '+' = '.') := by decide

theorem not_specBasicReal_plus {r : List Char} : ¬ SpecBasicReal ('+' :: r) :=
  fun h => plus_not_mantissa_char (((specBasicReal_cons '+' r).mp h).1 '+' List.mem_cons_self)

theorem basicReal_head (s : List Char) (h : SpecBasicReal s) : s ≠ [] ∧ s.head? ≠ some '+' := by
  cases s with
  | nil => exact absurd h not_specBasicReal_nil
  | cons c r =>
    refine ⟨List.cons_ne_nil _ _, fun hc => ?_⟩
    cases hc
    exact not_specBasicReal_plus h

end Cellml.Num
