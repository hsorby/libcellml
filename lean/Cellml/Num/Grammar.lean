/-
  C16 — recognisers = grammar.  The grammar says `sign ++ body`, the recognisers look at the first character:
  `specBasicReal_cons` and `specInt_iff` bridge the two.
-/
import Cellml.Num.Recognisers
namespace Cellml.Num

theorem specMantissa_head_ne_minus {c : Char} {r : List Char} (h : SpecMantissa (c :: r)) : c ≠ '-' := by
  rcases h.1 c List.mem_cons_self with hd | rfl
  · exact isDigit_ne hd rfl
  · decide

theorem mantOK_true_iff (b : List Char) : mantOK true b = true ↔ SpecMantissa b := by
  unfold mantOK SpecMantissa
  simp only [Bool.and_eq_true, decide_eq_true_eq, Bool.not_true, Bool.false_or, Bool.not_eq_true',
    List.all_eq_true, Nat.lt_succ_iff, List.isEmpty_eq_false_iff_exists_mem]
  -- with at most one point, the members of `b.erase '.'` are the members of `b` other than it
  by_cases h1 : b.count '.' ≤ 1
  · have hm : ∀ c, c ∈ b.erase '.' ↔ c ∈ b ∧ c ≠ '.' := fun c => mem_erase_iff_of_count_le_one h1
    constructor
    · rintro ⟨-, hall, x, hx⟩
      refine ⟨fun c hc => ?_, h1, x, ((hm x).mp hx).1, hall x hx⟩
      by_cases hd : c = '.'
      · exact Or.inr hd
      · exact Or.inl (hall c ((hm c).mpr ⟨hc, hd⟩))
    · rintro ⟨hall, -, x, hx, hd⟩
      refine ⟨h1, fun c hc => ?_, x, (hm x).mpr ⟨hx, isDigit_ne hd rfl⟩⟩
      exact (hall c ((hm c).mp hc).1).resolve_right ((hm c).mp hc).2
  · exact ⟨fun h => absurd h.1 h1, fun h => absurd h.2.1 h1⟩

theorem specMantissa_ne_nil {b : List Char} (h : SpecMantissa b) : b ≠ [] := by
  obtain ⟨c, hc, _⟩ := h.2.2
  exact List.ne_nil_of_mem hc

theorem not_specBasicReal_nil : ¬ SpecBasicReal [] := by
  rintro ⟨sign, b, _, hs, hb⟩
  exact specMantissa_ne_nil hb (List.append_eq_nil_iff.mp hs.symm).2

theorem specBasicReal_cons (c : Char) (r : List Char) :
    SpecBasicReal (c :: r) ↔ SpecMantissa (if c = '-' then r else c :: r) := by
  constructor
  · rintro ⟨sign, b, rfl | rfl, hs, hb⟩
    · cases hs
      rwa [if_neg (specMantissa_head_ne_minus hb)]
    · cases hs
      exact hb
  · intro h
    by_cases hc : c = '-'
    · rw [if_pos hc] at h
      exact ⟨['-'], r, Or.inr rfl, by rw [hc]; rfl, h⟩
    · rw [if_neg hc] at h
      exact ⟨[], c :: r, Or.inl rfl, rfl, h⟩

theorem basicReal_iff (s : List Char) : basicReal s = true ↔ SpecBasicReal s := by
  cases s with
  | nil => exact ⟨fun h => (by cases h), fun h => absurd h not_specBasicReal_nil⟩
  | cons c r => rw [basicReal, basicRealWith_cons, mantOK_true_iff, specBasicReal_cons]

theorem nonNegInt_iff (s : List Char) : nonNegInt s = true ↔ s ≠ [] ∧ AllDigits s := by
  unfold nonNegInt AllDigits
  cases s <;> simp

theorem cellmlInt_eq (s : List Char) : cellmlInt s = nonNegInt (dropSign s) := by
  fun_cases cellmlInt s with
  | case1 => rfl
  | case2 c rest hsign => rw [dropSign, if_pos hsign]
  | case3 c rest hsign => rw [dropSign, if_neg hsign]

theorem specInt_iff (s : List Char) : SpecInt s ↔ dropSign s ≠ [] ∧ AllDigits (dropSign s) := by
  constructor
  · rintro ⟨sign, ds, hs, rfl, hne, hd⟩
    rcases hs with rfl | rfl | rfl
    · cases ds with
      | nil => exact absurd rfl hne
      | cons c r =>
        have hc := hd c List.mem_cons_self
        simp only [List.nil_append, dropSign, isDigit_ne hc (d := '-') rfl, isDigit_ne hc (d := '+') rfl,
          decide_false, Bool.or_self, Bool.false_eq_true, if_false]
        exact ⟨hne, hd⟩
    all_goals exact ⟨hne, hd⟩
  · rintro ⟨hne, hd⟩
    cases s with
    | nil => exact absurd rfl hne
    | cons c r =>
      simp only [dropSign, Bool.or_eq_true, decide_eq_true_eq] at hne hd
      by_cases hc : c = '-' ∨ c = '+'
      · rw [if_pos hc] at hne hd
        rcases hc with rfl | rfl
        · exact ⟨['-'], r, Or.inr (Or.inl rfl), rfl, hne, hd⟩
        · exact ⟨['+'], r, Or.inr (Or.inr rfl), rfl, hne, hd⟩
      · rw [if_neg hc] at hne hd
        exact ⟨[], c :: r, Or.inl rfl, rfl, hne, hd⟩

theorem cellmlInt_iff (s : List Char) : cellmlInt s = true ↔ SpecInt s := by
  rw [cellmlInt_eq, nonNegInt_iff, specInt_iff]

theorem specBasicReal_chars {s : List Char} (h : SpecBasicReal s) :
    ∀ c ∈ s, isDigit c = true ∨ c = '.' ∨ c = '-' := by
  obtain ⟨sign, b, hs, rfl, hb⟩ := h
  intro c hc
  rcases List.mem_append.mp hc with h | h
  · rcases hs with rfl | rfl
    · cases h
    · exact Or.inr (Or.inr (List.mem_singleton.mp h))
  · exact (hb.1 c h).imp_right Or.inl

theorem specInt_chars {s : List Char} (h : SpecInt s) :
    ∀ c ∈ s, isDigit c = true ∨ c = '+' ∨ c = '-' := by
  obtain ⟨sign, ds, hs, rfl, _, hd⟩ := h
  intro c hc
  rcases List.mem_append.mp hc with h | h
  · rcases hs with rfl | rfl | rfl
    · cases h
    · exact Or.inr (Or.inr (List.mem_singleton.mp h))
    · exact Or.inr (Or.inl (List.mem_singleton.mp h))
  · exact Or.inl (hd c h)

theorem noE_of_basic {s : List Char} (h : SpecBasicReal s) : NoE s := by
  intro c hc
  rcases specBasicReal_chars h c hc with hd | rfl | rfl
  · exact ⟨isDigit_ne hd rfl, isDigit_ne hd rfl⟩
  all_goals decide

theorem noE_of_int {s : List Char} (h : SpecInt s) : NoE s := by
  intro c hc
  rcases specInt_chars h c hc with hd | rfl | rfl
  · exact ⟨isDigit_ne hd rfl, isDigit_ne hd rfl⟩
  all_goals decide

/-- C16-1: `isCellMLReal` accepts exactly the CellML reals of the statement -/
theorem cellmlReal_iff (s : List Char) : cellmlReal s = true ↔ SpecReal s := by
  constructor
  · intro h
    rcases cellmlRealWith_cases true h with hs | ⟨sig, e, ex, he, rfl, hsig, hex⟩
    · rw [cellmlReal, cellmlRealWith_of_noE true hs] at h
      exact Or.inl ((basicReal_iff s).mp h)
    · rw [cellmlReal, cellmlRealWith_split true he hsig hex, Bool.and_eq_true] at h
      exact Or.inr ⟨sig, e, ex, he, rfl, (basicReal_iff sig).mp h.1, (cellmlInt_iff ex).mp h.2⟩
  · rintro (h | ⟨sig, e, ex, he, rfl, hsig, hex⟩)
    · rw [cellmlReal, cellmlRealWith_of_noE true (noE_of_basic h)]
      exact (basicReal_iff s).mpr h
    · rw [cellmlReal, cellmlRealWith_split true he (noE_of_basic hsig) (noE_of_int hex), Bool.and_eq_true]
      exact ⟨(basicReal_iff sig).mpr hsig, (cellmlInt_iff ex).mpr hex⟩

end Cellml.Num
