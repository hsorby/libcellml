/-
  C16 — the recognisers in a form fit for comparison with the grammar: `isCellMLBasicReal` tests the text behind
  the optional minus sign; `isCellMLReal` splits at the only `e`/`E`, if any.
-/
import Cellml.Num.Spec
import Cellml.Lists
namespace Cellml.Num

/-- used as `isDigit_ne hc rfl : c ≠ '-'`, with `d` from the expected type -/
theorem isDigit_ne {c d : Char} (hc : isDigit c = true) (hd : isDigit d = false) : c ≠ d := by
  intro h
  rw [h, hd] at hc
  cases hc

theorem isDigit_not_space {c : Char} (h : isDigit c = true) : isSpace c = false := by
  -- none of the six white-space characters is a digit
  have hne : ∀ d, isDigit d = false → decide (c = d) = false := fun d hd => decide_eq_false (isDigit_ne h hd)
  rw [isSpace, hne ' ' rfl, hne '\t' rfl, hne '\n' rfl, hne '\x0b' rfl, hne '\x0c' rfl, hne '\r' rfl]
  rfl

/-- the mantissa test of `isCellMLBasicReal`; recogniser (`basicRealWith_cons`) and grammar (`mantOK_true_iff`)
    meet in it -/
def mantOK (needDigit : Bool) (b : List Char) : Bool :=
  decide (b.count '.' < 2) && ((b.erase '.').all isDigit && (!needDigit || !(b.erase '.').isEmpty))

theorem basicRealWith_cons (nd : Bool) (c : Char) (r : List Char) :
    basicRealWith nd (c :: r) = mantOK nd (if c = '-' then r else c :: r) := by
  -- erasing the point only when there is one is the same as erasing it
  have herase : ∀ s : List Char, s.count '.' < 2 → (if s.count '.' = 1 then s.erase '.' else s) = s.erase '.' := by
    intro s h2
    split
    · rfl
    · exact (List.erase_of_not_mem (List.count_eq_zero.mp (by omega))).symm
  by_cases hc : c = '-'
  · subst hc
    have hcount : ('-' :: r).count '.' = r.count '.' := List.count_cons_of_ne (by decide)
    have he : ('-' :: r).erase '.' = '-' :: r.erase '.' := List.erase_cons_tail (by decide)
    simp only [basicRealWith, mantOK, if_true, List.isEmpty_cons, Bool.false_eq_true, if_false, List.head?_cons]
    by_cases h2 : r.count '.' < 2
    · have h2' : ('-' :: r).count '.' < 2 := hcount ▸ h2
      rw [if_pos h2', herase _ h2', he, List.drop_one, List.tail_cons, decide_eq_true h2, Bool.true_and]
    · have h2' : ¬ ('-' :: r).count '.' < 2 := hcount ▸ h2
      rw [if_neg h2', decide_eq_false h2, Bool.false_and]
  · simp only [basicRealWith, mantOK, if_neg hc, List.isEmpty_cons, Bool.false_eq_true, if_false, List.head?_cons,
      Option.some.injEq]
    by_cases h2 : (c :: r).count '.' < 2
    · rw [if_pos h2, herase _ h2, decide_eq_true h2, Bool.true_and]
    · rw [if_neg h2, decide_eq_false h2, Bool.false_and]

def NoE (s : List Char) : Prop := ∀ c ∈ s, c ≠ 'e' ∧ c ≠ 'E'

theorem NoE.count_e {s : List Char} (h : NoE s) : s.count 'e' = 0 :=
  List.count_eq_zero.mpr fun hm => (h 'e' hm).1 rfl

theorem normE_append (a b : List Char) : normE (a ++ b) = normE a ++ normE b :=
  List.map_append

theorem normE_of_noE {s : List Char} (h : NoE s) : normE s = s := by
  have : ∀ c ∈ s, (fun c => if c = 'E' then 'e' else c) c = id c := fun c hc => if_neg (h c hc).2
  rw [normE, List.map_congr_left this, List.map_id]

theorem noE_iff {s : List Char} : NoE s ↔ 'e' ∉ normE s := by
  constructor
  · intro h hm
    rw [normE_of_noE h] at hm
    exact List.count_eq_zero.mp h.count_e hm
  · intro h c hc
    have hm : (if c = 'E' then 'e' else c) ∈ normE s := List.mem_map.mpr ⟨c, hc, rfl⟩
    by_cases hE : c = 'E'
    · rw [if_pos hE] at hm
      exact absurd hm h
    · rw [if_neg hE] at hm
      exact ⟨fun he => h (he ▸ hm), hE⟩

theorem cellmlRealWith_of_noE (nd : Bool) {s : List Char} (h : NoE s) :
    cellmlRealWith nd s = basicRealWith nd s := by
  cases s with
  | nil => rfl
  | cons c r =>
    simp only [cellmlRealWith, List.isEmpty_cons, Bool.false_eq_true, if_false, normE_of_noE h, h.count_e]
    -- left: the tests `0 < 2` and `0 = 1`, which evaluate
    rfl

theorem cellmlRealWith_split (nd : Bool) {sig ex : List Char} {e : Char} (he : e = 'e' ∨ e = 'E')
    (hsig : NoE sig) (hex : NoE ex) :
    cellmlRealWith nd (sig ++ e :: ex) = (basicRealWith nd sig && cellmlInt ex) := by
  have hn : normE (sig ++ e :: ex) = sig ++ 'e' :: ex := by
    have : normE (e :: ex) = 'e' :: normE ex := by rcases he with rfl | rfl <;> rfl
    rw [normE_append, this, normE_of_noE hsig, normE_of_noE hex]
  have hs : ∀ c ∈ sig, decide (c ≠ 'e') = true := fun c hc => decide_eq_true (hsig c hc).1
  have hc : (sig ++ 'e' :: ex).count 'e' = 1 := by
    rw [List.count_append, List.count_cons_self, hsig.count_e, hex.count_e]
  have hemp : (sig ++ e :: ex).isEmpty = false := by cases sig <;> rfl
  simp only [cellmlRealWith, hemp, Bool.false_eq_true, if_false, hn, hc, List.takeWhile_append_of_pos hs,
    List.dropWhile_append_of_pos hs, List.takeWhile_cons, List.dropWhile_cons, ne_eq, not_true_eq_false,
    decide_false, List.append_nil, List.drop_one, List.tail_cons]
  -- left: the tests `1 < 2` and `1 = 1`, which evaluate
  rfl

theorem cellmlRealWith_cases (nd : Bool) {s : List Char} (h : cellmlRealWith nd s = true) :
    NoE s ∨ ∃ sig e ex, (e = 'e' ∨ e = 'E') ∧ s = sig ++ e :: ex ∧ NoE sig ∧ NoE ex := by
  -- at most one `e` after normalisation: split `normE s` at it and pull the split back through the `map`
  by_cases hm : 'e' ∈ normE s
  · right
    have hsplit := split_at_mem hm
    obtain ⟨sig, rest, hs, hsig, hrest⟩ := List.map_eq_append_iff.mp (hsplit : normE s = _)
    obtain ⟨e, ex, rfl, he, hex⟩ := List.map_eq_cons_iff.mp hrest
    have hk : (normE s).count 'e' < 2 := by
      unfold cellmlRealWith at h
      by_cases hk : (normE s).count 'e' < 2
      · exact hk
      · cases s <;> simp [hk] at h
    -- count in front + (count behind + 1) < 2, so both counts are 0
    rw [hsplit, List.count_append, List.count_cons_self] at hk
    refine ⟨sig, e, ex, ?_, hs, noE_iff.mpr ?_, noE_iff.mpr ?_⟩
    · by_cases hE : e = 'E'
      · exact Or.inr hE
      · rw [if_neg hE] at he
        exact Or.inl he
    · rw [normE, hsig]
      exact List.count_eq_zero.mp (by omega)
    · rw [normE, hex]
      exact List.count_eq_zero.mp (by omega)
  · exact Or.inl (noE_iff.mpr hm)

end Cellml.Num
