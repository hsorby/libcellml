/-
  C13 — freshness of generated identifiers, cache synchronisation, post-condition of assignment.
-/
import Cellml.Annot.Model
import Cellml.Lists
namespace Cellml.Annot

theorem hexStr_inj (m n : Nat) (h : hexStr m = hexStr n) : m = n :=
  toDigits_inj (by decide) digitChar_inj16 m n (String.ofList_injective h)

theorem hexStr_ne_empty (n : Nat) : hexStr n ≠ "" := by
  simp [hexStr, ← String.toList_eq_nil_iff]

/-- C13-1: `makeUniqueId` answers with the first counter value from `c` on whose rendering is not in the cache, and
    `|cache| + 1` steps are enough to find it -/
theorem makeUnique_spec (cache : List String) (c : Nat) :
    ∃ n, makeUnique cache (cache.length + 1) c = (hexStr n, n) ∧ c ≤ n ∧ hexStr n ∉ cache ∧
      ∀ i, c ≤ i → i < n → hexStr i ∈ cache :=
  search_free hexStr hexStr_inj cache (fun n => (hexStr n, n)) (makeUnique cache) (fun _ => rfl) (fun _ _ => rfl)
    (cache.length + 1) c (Nat.le_succ _)

theorem mem_nonEmpty {l : List String} {x : String} : x ∈ nonEmpty l ↔ x ∈ l ∧ x ≠ "" := by
  simp [nonEmpty]

theorem nonEmpty_erase_empty (l : List String) : (nonEmpty l).erase "" = nonEmpty l :=
  List.erase_of_not_mem fun h => (mem_nonEmpty.mp h).2 rfl

theorem nonEmpty_set_perm {l : List String} {i : Nat} {old a : String} (h : l[i]? = some old) (ha : a ≠ "") :
    (nonEmpty (l.set i a)).Perm (a :: (nonEmpty l).erase old) := by
  have := (set_perm h a).filter (· ≠ "")
  rwa [List.filter_cons_of_pos (by simpa using ha), ← List.erase_filter] at this

theorem nonEmpty_clear_perm (l : List String) : ∀ (i : Nat), i < l.length → l.getD i "" ≠ "" →
    (nonEmpty (l.set i "")).Perm ((nonEmpty l).erase (l.getD i "")) := by
  -- `_hne` is not needed: erasing an empty old content from `nonEmpty l` changes nothing
  intro i hlt _hne
  have := (set_perm (getElem?_eq_some_getD (d := "") hlt) "").filter (· ≠ "")
  rwa [List.filter_cons_of_neg (by simp), ← List.erase_filter] at this

/-- the cache is the multiset of identifiers of the model -/
def Fresh (s : AState) : Prop := s.cache.Perm (nonEmpty s.ids)

/-- ids that were empty in `s0` and are filled in `s` occur exactly once in `s` -/
def NewUnique (s0 s : AState) : Prop :=
  ∀ j, s0.ids.getD j "" = "" → s.ids.getD j "" ≠ "" → s.ids.count (s.ids.getD j "") = 1

/-- `s0` is the state in which a traversal starts, `s` a state it reaches; `filled` says that no slot is emptied on the
    way -/
structure VisitInv (s0 s : AState) : Prop where
  fresh : Fresh s
  len : s.ids.length = s0.ids.length
  old : ∀ j, s0.ids.getD j "" ≠ "" → s.ids.getD j "" = s0.ids.getD j ""
  filled : ∀ j, s.ids.getD j "" = "" → s0.ids.getD j "" = ""
  uniq : NewUnique s0 s

theorem visit_spec (s : AState) (i : Nat) :
    visit s i = s ∧ ¬ (s.ids.getD i "" = "" ∧ i < s.ids.length) ∨
    ∃ id, (visit s i).ids = s.ids.set i id ∧ (visit s i).cache = id :: s.cache ∧
      id ≠ "" ∧ id ∉ s.cache ∧ s.ids.getD i "" = "" ∧ i < s.ids.length := by
  fun_cases visit s i
  next hempty id c he =>
    obtain ⟨n, hn, -, hfree, -⟩ := makeUnique_spec s.cache s.counter
    cases he.symm.trans hn   -- `(id, c)` is `(hexStr n, n)`
    exact .inr ⟨_, rfl, rfl, hexStr_ne_empty _, hfree, hempty.1, hempty.2⟩
  next hno => exact .inl ⟨rfl, hno⟩

theorem visit_len (s : AState) (i : Nat) : (visit s i).ids.length = s.ids.length := by
  rcases visit_spec s i with ⟨he, -⟩ | ⟨id, he, -⟩
  · rw [he]
  · rw [he, List.length_set]

theorem visit_other (s : AState) (i j : Nat) (h : i ≠ j) : (visit s i).ids.getD j "" = s.ids.getD j "" := by
  rcases visit_spec s i with ⟨he, -⟩ | ⟨id, he, -⟩
  · rw [he]
  · rw [he]
    exact getD_set_ne _ _ _ _ h

theorem visit_fills (s : AState) (i : Nat) (hlt : i < s.ids.length) : (visit s i).ids.getD i "" ≠ "" := by
  rcases visit_spec s i with ⟨he, hno⟩ | ⟨id, he, -, hid, -⟩
  · rw [he]
    exact fun h => hno ⟨h, hlt⟩
  · rwa [he, getD_set_self _ _ _ hlt]

theorem visit_keeps (s : AState) (i j : Nat) (h : s.ids.getD j "" ≠ "") : (visit s i).ids.getD j "" ≠ "" := by
  rcases visit_spec s i with ⟨he, -⟩ | ⟨id, he, -, -, -, hget, -⟩
  · rwa [he]
  · have hij : i ≠ j := fun e => h (e ▸ hget)
    rwa [he, getD_set_ne _ _ _ _ hij]

theorem visit_inv (s0 s : AState) (i : Nat) (h : VisitInv s0 s) : VisitInv s0 (visit s i) := by
  rcases visit_spec s i with ⟨he, -⟩ | ⟨id, hids, hcache, hid, hfresh, hget, hlt⟩
  · rwa [he]
  -- the new identifier is neither in the cache nor in the model (`hnotin`), so every other one keeps its count
  -- (`hcount`)
  have hnotin : id ∉ s.ids := fun hin => hfresh (h.fresh.mem_iff.mpr (mem_nonEmpty.mpr ⟨hin, hid⟩))
  have hold : s.ids[i]? = some "" := hget ▸ getElem?_eq_some_getD hlt
  have hcount : ∀ x, x ≠ "" → (s.ids.set i id).count x = (id :: s.ids).count x := by
    intro x hx
    have := (cons_set_perm hold id).count_eq x
    rwa [List.count_cons_of_ne hx.symm] at this
  constructor
  case fresh =>
    have := nonEmpty_set_perm hold hid
    rw [nonEmpty_erase_empty] at this
    rw [Fresh, hids, hcache]
    exact (h.fresh.cons id).trans this.symm
  case len => rw [hids, List.length_set, h.len]
  case old =>
    intro j hj
    have hij : i ≠ j := fun e => hj (h.filled j (e ▸ hget))
    rw [hids, getD_set_ne _ _ _ _ hij]
    exact h.old j hj
  case filled =>
    intro j hj
    rw [hids] at hj
    by_cases hij : i = j
    · subst hij
      rw [getD_set_self _ _ _ hlt] at hj
      exact absurd hj hid
    · rw [getD_set_ne _ _ _ _ hij] at hj
      exact h.filled j hj
  case uniq =>
    intro j hj0 hj
    rw [hids] at hj ⊢
    rw [hcount _ hj]
    by_cases hij : i = j
    · subst hij
      rw [getD_set_self _ _ _ hlt, List.count_cons_self, List.count_eq_zero.mpr hnotin]
    · rw [getD_set_ne _ _ _ _ hij] at hj ⊢
      rw [List.count_cons_of_ne (fun e : id = s.ids.getD j "" => hnotin (e ▸ getD_mem hj))]
      exact h.uniq j hj0 hj

theorem visitInv_refl (s : AState) (h : Fresh s) : VisitInv s s where
  fresh := h
  len := rfl
  old _ _ := rfl
  filled _ h := h
  uniq _ h0 h1 := absurd h0 h1

theorem visitAll_len (vs : List Nat) : ∀ s : AState, (visitAll s vs).ids.length = s.ids.length := by
  induction vs with
  | nil => exact fun _ => rfl
  | cons v vs ih => exact fun s => (ih (visit s v)).trans (visit_len s v)

theorem visitAll_other (vs : List Nat) : ∀ (s : AState) (j : Nat), j ∉ vs →
    (visitAll s vs).ids.getD j "" = s.ids.getD j "" := by
  induction vs with
  | nil => exact fun _ _ _ => rfl
  | cons v vs ih =>
    intro s j hj
    simp only [List.mem_cons, not_or] at hj
    exact (ih (visit s v) j hj.2).trans (visit_other s v j (Ne.symm hj.1))

theorem visitAll_keeps (vs : List Nat) : ∀ (s : AState) (j : Nat), s.ids.getD j "" ≠ "" →
    (visitAll s vs).ids.getD j "" ≠ "" := by
  induction vs with
  | nil => exact fun _ _ h => h
  | cons v vs ih => exact fun s j h => ih (visit s v) j (visit_keeps s v j h)

theorem visitAll_fills (vs : List Nat) : ∀ (s : AState) (i : Nat), i ∈ vs → i < s.ids.length →
    (visitAll s vs).ids.getD i "" ≠ "" := by
  induction vs with
  | nil => exact fun _ _ h => nomatch h
  | cons v vs ih =>
    intro s i hi hlt
    rcases List.mem_cons.mp hi with rfl | hi
    · exact visitAll_keeps vs (visit s i) i (visit_fills s i hlt)
    · exact ih (visit s v) i hi (by rwa [visit_len])

theorem visitAll_inv (vs : List Nat) : ∀ (s0 s : AState), VisitInv s0 s → VisitInv s0 (visitAll s vs) := by
  induction vs with
  | nil => exact fun _ _ h => h
  | cons v vs ih => exact fun s0 s h => ih s0 _ (visit_inv s0 s v h)

theorem visitAll_fresh (vs : List Nat) (s : AState) (h : Fresh s) : Fresh (visitAll s vs) :=
  (visitAll_inv vs s s (visitInv_refl s h)).fresh

/-- the cache is the multiset of the identifiers the recorded hash was computed from -/
def Sync (s : AState) : Prop :=
  match s.snap with
  | none => True
  | some p => s.cache.Perm (nonEmpty p)

theorem sync_of_fresh_snap (s : AState) (h : Fresh s) : Sync { s with snap := some s.ids } := h

theorem update_ids (s : AState) : (update s).ids = s.ids := by
  fun_cases update s <;> rfl

theorem setModel_ids (s : AState) (ids : List String) : (setModel s ids).ids = ids := by
  unfold setModel
  rw [update_ids]

theorem update_hasModel (s : AState) : (update s).hasModel = s.hasModel := by
  fun_cases update s <;> rfl

theorem update_counter (s : AState) : (update s).counter = s.counter := by
  fun_cases update s <;> rfl

theorem update_sync (s : AState) (h : Sync s) : Sync (update s) := by
  fun_cases update s
  next noModel => exact h
  next _ sameHash => exact h
  next _ newHash => exact List.Perm.refl _

theorem update_cache (s : AState) (h : Sync s) (hm : s.hasModel = true) : (update s).cache.Perm (nonEmpty s.ids) := by
  fun_cases update s
  next noModel => simp [hm] at noModel
  next _ sameHash => rwa [Sync, sameHash] at h
  next _ newHash => exact List.Perm.refl _

theorem update_fresh (s : AState) (h : Sync s) (hm : s.hasModel = true) : Fresh (update s) := by
  rw [Fresh, update_ids]
  exact update_cache s h hm

/-- the post-condition shared by `assignAllIds()` and `assignIds(type)`, which differ in the slots `vs` they visit -/
theorem assign_spec (vs : List Nat) (s : AState) (hs : Sync s) (hm : s.hasModel = true) :
    let ids' := (visitAll (update s) vs).ids
    (∀ i ∈ vs, i < s.ids.length → ids'.getD i "" ≠ "") ∧
    (∀ j, s.ids.getD j "" ≠ "" → ids'.getD j "" = s.ids.getD j "") ∧
    (∀ j, s.ids.getD j "" = "" → ids'.getD j "" ≠ "" → ids'.count (ids'.getD j "") = 1) ∧
    (∀ j, j ∉ vs → ids'.getD j "" = s.ids.getD j "") ∧
    ids'.length = s.ids.length := by
  have hv := visitAll_inv vs _ _ (visitInv_refl _ (update_fresh s hs hm))
  have hfill := visitAll_fills vs (update s)
  have hold := hv.old
  have huniq := hv.uniq
  have hoth := visitAll_other vs (update s)
  have hlen := hv.len
  simp only [NewUnique, update_ids] at hfill hold huniq hoth hlen
  exact ⟨hfill, hold, huniq, hoth, hlen⟩

theorem assignId_spec (s : AState) (i : Nat) (hs : Sync s) (hm : s.hasModel = true) (hlt : i < s.ids.length) :
    (assignId s i).2 ≠ "" ∧ (assignId s i).2 ∉ s.ids ∧ (assignId s i).1.ids = s.ids.set i (assignId s i).2 ∧
    Sync (assignId s i).1 := by
  have hu := update_cache s hs hm
  obtain ⟨n, hn, -, hfree, -⟩ := makeUnique_spec (update s).cache (update s).counter
  have hid := hexStr_ne_empty n
  have he : assignId s i = ({ update s with
      ids := s.ids.set i (hexStr n)
      cache := hexStr n :: if s.ids.getD i "" = "" then (update s).cache else (update s).cache.erase (s.ids.getD i "")
      counter := n
      snap := some (s.ids.set i (hexStr n)) }, hexStr n) := by
    simp [assignId, hm, hlt, hn, update_ids]
  rw [he]
  refine ⟨hid, fun hin => hfree (hu.mem_iff.mpr (mem_nonEmpty.mpr ⟨hin, hid⟩)), rfl, ?_⟩
  -- `id :: cache' ~ id :: (nonEmpty ids).erase old ~ nonEmpty (ids.set i id)`
  have hcache : (if s.ids.getD i "" = "" then (update s).cache else (update s).cache.erase (s.ids.getD i "")).Perm
      ((nonEmpty s.ids).erase (s.ids.getD i "")) := by
    split
    next hold =>
      -- an empty old identifier was not in the list
      rwa [hold, nonEmpty_erase_empty]
    next => exact hu.erase _
  exact (hcache.cons _).trans (nonEmpty_set_perm (getElem?_eq_some_getD (d := "") hlt) hid).symm

theorem setModel_sync (s : AState) (ids : List String) : Sync (setModel s ids) :=
  update_sync { s with ids := ids, hasModel := true, snap := none } trivial

theorem step_sync (refresh : Bool) (sh : Shape) (s : AState) (op : Op) (h : Sync s)
    (hr : refresh = true) : Sync (step refresh sh s op) := by
  subst hr
  cases op with
  | setModel ids => exact setModel_sync s ids
  | switch => exact setModel_sync _ _
  | edit i id => exact h
  | lookup id => exact update_sync s h
  | clearAll =>
    show Sync (clearAll s)
    fun_cases clearAll s
    next noModel => exact h
    next _ => trivial
  | assignAll =>
    show Sync (assignAll true sh s).1
    fun_cases assignAll true sh s
    next noModel => exact h
    next hm _ _ _ =>
      rw [Bool.not_eq_true, Bool.not_eq_false'] at hm
      exact sync_of_fresh_snap _ (visitAll_fresh _ _ (update_fresh s h hm))
  | assignIds k =>
    show Sync (assignIds true sh s k).1
    fun_cases assignIds true sh s k
    next noModel => exact h
    next _ => exact setModel_sync _ _
  | assignId i =>
    show Sync (assignId s i).1
    by_cases hc : (!s.hasModel) = true ∨ ¬ i < s.ids.length
    · rw [assignId, if_pos hc]
      exact h
    · have hm : s.hasModel = true := by simpa using (not_or.mp hc).1
      have hlt : i < s.ids.length := Classical.not_not.mp (not_or.mp hc).2
      obtain ⟨-, -, -, hs⟩ := assignId_spec s i h hm hlt
      exact hs

theorem run_sync (sh : Shape) (ops : List Op) : ∀ s, Sync s → Sync (run true sh s ops) := by
  induction ops with
  | nil => exact fun _ h => h
  | cons op ops ih => exact fun s h => ih _ (step_sync true sh s op h rfl)

end Cellml.Annot
