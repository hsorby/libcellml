/-
  C13 — automatic identifiers are the lower-case hexadecimal rendering of a counter (injective: `hexStr_inj` in
  `Proofs.lean`).
-/
namespace Cellml.Annot

/-- `std::stringstream << std::hex << n` -/
def hexStr (n : Nat) : String := String.ofList (Nat.toDigits 16 n)

end Cellml.Annot
