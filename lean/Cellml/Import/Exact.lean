/-
  C07 — exactness of `fetchUnits`: the fuel-free characterisation `UOk` (a finite derivation: the file of every import
  is a model, is not a file the descent came through, contains the referenced units, whose own import and whose imported
  children are fetched in turn) holds exactly when `fetchUnits` answers `ok`, for every fuel that is not used up: `ok`
  comes with a derivation (`fetchUnits_sound`) and a derivation rules out every failure (`fetchUnits_ne_fail`); neither
  needs the measure.  The same for `fetchComponent` and `COk`.  (Branch numbers: see the header of `Proofs.lean`.)
-/
import Cellml.Import.Proofs
namespace Cellml.Import

/-- what it takes for an imported units to be fetched, without fuel -/
inductive UOk (w : World) : List String → String → UnitsE → Prop
  | notImported {path : List String} {cur : String} {u : UnitsE} : u.imp = none → UOk w path cur u
  | imported {path : List String} {cur : String} {u su : UnitsE} {url ref : String} {us : List UnitsE} {cs : List CompE} :
      u.imp = some (url, ref) → w.lookup url = some (.model us cs) → ¬ url ∈ path → findU us ref = some su →
      UOk w (path ++ [cur]) url su →
      (∀ k ∈ su.kids, (findU us k).isSome = true) →
      (∀ k ∈ su.kids, ∀ ku, findU us k = some ku → ku.imp.isSome = true → UOk w (path ++ [cur]) url ku) →
      UOk w path cur u

theorem fetchUnits_sound (n : Nat) (w : World) (path : List String) (cur : String) (u : UnitsE)
    (h : fetchUnits n w path cur u = .ok) : UOk w path cur u := by
  fun_induction fetchUnits n w path cur u with
  | case2 n w path cur u himp => exact .notImported himp
  | case8 n w path cur u url ref himp us cs hlk hpath su hf ihsu ihkids =>
    obtain ⟨hsu, hkids⟩ := seqR_ok_iff.mp h
    have hkids := allR_ok_iff.mp hkids
    refine .imported himp hlk (by simpa using hpath) hf (ihsu hsu) (fun k hk => ?_) (fun k hk ku hfk hi => ?_)
    · have := hkids k hk
      cases hfk : findU us k with
      | none => simp [hfk] at this
      | some ku => rfl
    · have := hkids k hk
      simp only [hfk, hi] at this
      exact ihkids ku this
  | _ => cases h

theorem fetchUnits_ne_fail (w : World) {path : List String} {cur : String} {u : UnitsE} (h : UOk w path cur u)
    (n : Nat) (why : Why) : fetchUnits n w path cur u ≠ .fail why := by
  induction h generalizing n with
  | notImported himp => cases n <;> simp [fetchUnits, himp]
  | @imported path cur u su url ref us cs himp hlk hpath hf _ hex _ ihsu ihkids =>
    rcases n with _ | n
    · nofun
    unfold fetchUnits
    -- the premises of the rule rewrite the body to its last branch, the descent
    simp only [himp, hlk, List.contains_eq_mem, hpath, decide_false, Bool.false_eq_true, if_false, hf]
    refine seqR_of (· ≠ .fail why) (ihsu n) (allR_of (· ≠ .fail why) nofun fun k hk => ?_)
    obtain ⟨ku, hfk⟩ := Option.isSome_iff_exists.mp (hex k hk)
    simp only [hfk]
    exact iteInduction (motive := (· ≠ R.fail why)) (fun hi => ihkids k hk ku hfk hi n) fun _ => nofun

theorem fetchUnits_ok_iff {n : Nat} {w : World} {path : List String} {cur : String} {u : UnitsE}
    (hfuel : fetchUnits n w path cur u ≠ .fuel) : fetchUnits n w path cur u = .ok ↔ UOk w path cur u :=
  ⟨fetchUnits_sound n w path cur u, fun h => R.eq_ok hfuel (fetchUnits_ne_fail w h n)⟩

/-- what it takes for a component to be fetched, without fuel (`noModel`: `cur` is not a model, which no call made by
    `resolve` reaches) -/
inductive COk (w : World) : List String → String → CompE → Prop
  | noModel {path : List String} {cur : String} {c : CompE} :
      (∀ us cs, w.lookup cur ≠ some (.model us cs)) → COk w path cur c
  | noImports {path : List String} {cur : String} {c : CompE} {us : List UnitsE} {cs : List CompE} :
      w.lookup cur = some (.model us cs) → reqImp cs.length cs c = false → COk w path cur c
  | localKids {path : List String} {cur : String} {c : CompE} {us : List UnitsE} {cs : List CompE} :
      w.lookup cur = some (.model us cs) → c.imp = none →
      (∀ k ∈ c.kids, ∀ kc, findC cs k = some kc → COk w path cur kc) → COk w path cur c
  | imported {path : List String} {cur : String} {c sc : CompE} {url ref : String} {us us' : List UnitsE} {cs cs' : List CompE} :
      w.lookup cur = some (.model us cs) → c.imp = some (url, ref) → w.lookup url = some (.model us' cs') → ¬ url ∈ path →
      findC cs' ref = some sc → COk w (path ++ [cur]) url sc →
      (∀ k ∈ sc.kids, ∀ kc, findC cs' k = some kc → COk w (path ++ [cur]) url kc) →
      (∀ un ∈ (subUnits cs'.length cs' sc).eraseDups, ∃ uu, findU us' un = some uu ∧ UOk w (path ++ [cur]) url uu) →
      (path ≠ [] → ∀ k ∈ c.kids, ∀ kc, findC cs k = some kc → COk w path cur kc) →
      COk w path cur c

theorem reqImp_of_imp {cs : List CompE} {c : CompE} {x : String × String} (h : c.imp = some x) :
    reqImp cs.length cs c = true := by
  cases hn : cs.length <;> simp [reqImp, h]

theorem fetchComponent_sound (n : Nat) (w : World) (path : List String) (cur : String) (c : CompE)
    (h : fetchComponent n w path cur c = .ok) : COk w path cur c := by
  fun_induction fetchComponent n w path cur c with
  | case2 n w path cur c us cs hcur hreq => exact .noImports hcur (by simpa using hreq)
  | case3 n w path cur c us cs hcur _ himp ihown =>
    refine .localKids hcur himp fun k hk kc hfk => ihown kc ?_
    have hk' := allR_ok_iff.mp h k hk
    simpa only [hfk] using hk'
  | case9 n w path cur c us cs hcur _ url ref himp us' cs' hlk hpath sc hf ihsc ihkids ihown =>
    simp only [seqR_ok_iff] at h
    obtain ⟨hsc, hsk, hun, hown⟩ := h
    have hkids : ∀ k ∈ sc.kids, ∀ kc, findC cs' k = some kc → COk w (path ++ [cur]) url kc := by
      intro k hk kc hfk
      have hk' := allR_ok_iff.mp hsk k hk
      exact ihkids kc (by simpa only [hfk] using hk')
    have hunits : ∀ un ∈ (subUnits cs'.length cs' sc).eraseDups,
        ∃ uu, findU us' un = some uu ∧ UOk w (path ++ [cur]) url uu := by
      intro un hun'
      have hu := allR_ok_iff.mp hun un hun'
      split at hu
      · cases hu
      next uu hfu => exact ⟨uu, hfu, fetchUnits_sound n w _ _ _ hu⟩
    have hownKids : path ≠ [] → ∀ k ∈ c.kids, ∀ kc, findC cs k = some kc → COk w path cur kc := by
      intro hne k hk kc hfk
      rw [if_neg (by simpa using hne)] at hown
      have hk' := allR_ok_iff.mp hown k hk
      exact ihown kc (by simpa only [hfk] using hk')
    exact .imported hcur himp hlk (by simpa using hpath) hf (ihsc hsc) hkids hunits hownKids
  | case10 n w path cur c hno => exact .noModel hno
  | _ => cases h

theorem fetchComponent_ne_fail (w : World) {path : List String} {cur : String} {c : CompE} (hc : COk w path cur c)
    (n : Nat) (why : Why) : fetchComponent n w path cur c ≠ .fail why := by
  induction hc generalizing n with
  | @noModel path cur c hno =>
    rcases n with _ | n
    · nofun
    unfold fetchComponent
    split
    next us cs hcur => exact absurd hcur (hno us cs)
    · nofun
  | @noImports path cur c us cs hcur hreq => cases n <;> simp [fetchComponent, hcur, hreq]
  | @localKids path cur c us cs hcur himp _ ih =>
    rcases n with _ | n
    · nofun
    unfold fetchComponent
    -- the premises of the rule rewrite the body to the branch of a component that is not imported
    simp only [hcur, himp]
    exact iteInduction (motive := (· ≠ R.fail why)) (fun _ => nofun) fun _ =>
      allKids_of (· ≠ .fail why) nofun fun k hk kc hfk => ih k hk kc hfk n
  | @imported path cur c sc url ref us us' cs cs' hcur himp hlk hpath hf _ _ hunits _ ihsc ihkids ihown =>
    rcases n with _ | n
    · nofun
    unfold fetchComponent
    -- the premises of the rule rewrite the body to its last branch, the descent
    simp only [hcur, reqImp_of_imp himp, Bool.not_true, Bool.false_eq_true, if_false, himp, hlk,
      List.contains_eq_mem, hpath, decide_false, hf]
    refine seqR_of (· ≠ .fail why) (ihsc n) ?_
    refine seqR_of (· ≠ .fail why) (allKids_of (· ≠ .fail why) nofun fun k hk kc hfk => ihkids k hk kc hfk n) ?_
    refine seqR_of (· ≠ .fail why) (allR_of (· ≠ .fail why) nofun fun un hun => ?_) ?_
    · obtain ⟨uu, hfu, hok⟩ := hunits un hun
      simp only [hfu]
      exact fetchUnits_ne_fail w hok n why
    · exact iteInduction (motive := (· ≠ R.fail why)) (fun _ => nofun) fun hemp =>
        allKids_of (· ≠ .fail why) nofun fun k hk kc hfk => ihown (by simpa using hemp) k hk kc hfk n

theorem fetchComponent_ok_iff {n : Nat} {w : World} {path : List String} {cur : String} {c : CompE}
    (hfuel : fetchComponent n w path cur c ≠ .fuel) : fetchComponent n w path cur c = .ok ↔ COk w path cur c :=
  ⟨fetchComponent_sound n w path cur c, fun h => R.eq_ok hfuel (fetchComponent_ne_fail w h n)⟩

end Cellml.Import
