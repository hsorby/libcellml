/-
  C07 — what `seqR` / `allR` answer, and that fuel is never exhausted (`fetchUnits_ne_fuel`, `fetchComponent_ne_fuel`).

  The depth of a descent is bounded by a measure that every recursive call decreases:
    * an import step goes from `(path, cur)` to `(path ++ [cur], url)` with `url` a file of the world that is not in
      `path` (it may be `cur`: the cycle test does not look at the file it is in); `muF` counts the files not in
      `path` and again those not in `path ++ [cur]`: the step turns the second count into the first and makes the new
      second smaller, `url` having joined;
    * a step from a component to an encapsulated child keeps `(path, cur)` and decreases the rank of the component
      (`Ranked`); `muC` orders the two lexicographically.
  `fetchUnits` does not descend into units that are not imported, so it has import steps only, and the summand
  `(unitPairs w).length` of `fuelFor` is not needed.

  `fun_induction` numbers the branches of `fetchUnits`: 1 no fuel, 2 not imported, 3–5 no file / missing / not XML,
  6 a file of the path, 7 no such units, 8 the descent; and those of `fetchComponent`: 1 no fuel, 2 nothing below `c`
  is imported, 3 not imported, 4–6 no file / missing / not XML, 7 a file of the path, 8 no such component, 9 the
  descent, 10 `cur` is not a model.
-/
import Cellml.Import.Model
import Cellml.Lists
namespace Cellml.Import

theorem seqR_ok_iff {a : R} {b : Unit → R} : seqR a b = .ok ↔ a = .ok ∧ b () = .ok := by
  cases a <;> simp [seqR]

theorem allR_ok_iff {α : Type} {f : α → R} {xs : List α} : allR f xs = .ok ↔ ∀ x ∈ xs, f x = .ok := by
  induction xs with
  | nil => simp [allR]
  | cons x xs ih => simp [allR, seqR_ok_iff, ih]

/-- `seqR a b` is `a` or `b ()`, so it has every property `Q` that both have -/
theorem seqR_of (Q : R → Prop) {a : R} {b : Unit → R} (ha : Q a) (hb : Q (b ())) : Q (seqR a b) := by
  cases a <;> assumption

theorem allR_of (Q : R → Prop) {α : Type} {f : α → R} {xs : List α} (hok : Q .ok) (h : ∀ x ∈ xs, Q (f x)) :
    Q (allR f xs) := by
  induction xs with
  | nil => exact hok
  | cons x xs ih => exact seqR_of Q (h x (.head _)) (ih fun y hy => h y (.tail _ hy))

theorem allKids_of (Q : R → Prop) {cs : List CompE} {f : CompE → R} {ks : List String} (hok : Q .ok)
    (h : ∀ k ∈ ks, ∀ kc, findC cs k = some kc → Q (f kc)) :
    Q (allR (fun k => match findC cs k with | none => .ok | some kc => f kc) ks) := by
  refine allR_of Q hok fun k hk => ?_
  cases hf : findC cs k with
  | none => exact hok
  | some kc => exact h k hk kc hf

theorem R.eq_ok {r : R} (hfuel : r ≠ .fuel) (hfail : ∀ why, r ≠ .fail why) : r = .ok := by
  cases r with
  | ok => rfl
  | fail why => exact absurd rfl (hfail why)
  | fuel => exact absurd rfl hfuel

theorem findC_mem {cs : List CompE} {k : String} {c : CompE} (h : findC cs k = some c) : c ∈ cs :=
  List.mem_of_find?_eq_some h

def muF (w : World) (path : List String) (cur : String) : Nat :=
  ((filesOf w).filter fun f => !path.contains f).length
    + ((filesOf w).filter fun f => !(path ++ [cur]).contains f).length

theorem muF_import (w : World) (path : List String) (cur url : String)
    (hu : url ∈ filesOf w) (hp : ¬ url ∈ path) : muF w (path ++ [cur]) url < muF w path cur := by
  -- the second count after the step is below the first count before it; the other two counts are the same
  have hlt : ((filesOf w).filter fun f => !(path ++ [cur] ++ [url]).contains f).length
      < ((filesOf w).filter fun f => !path.contains f).length :=
    length_filter_not_mem_lt (filesOf w) (s := path) (t := path ++ [cur] ++ [url]) (fun x hx => by simp [hx]) hu hp
      (by simp)
  unfold muF
  omega

theorem muF_le (w : World) (path : List String) (cur : String) : muF w path cur ≤ 2 * w.length := by
  have h1 := List.length_filter_le (fun f => !path.contains f) (filesOf w)
  have h2 := List.length_filter_le (fun f => !(path ++ [cur]).contains f) (filesOf w)
  rw [filesOf, List.length_map] at h1 h2
  unfold muF filesOf
  omega

theorem fetchUnits_ne_fuel (n : Nat) (w : World) (path : List String) (cur : String) (u : UnitsE)
    (hmu : muF w path cur < n) : fetchUnits n w path cur u ≠ .fuel := by
  fun_induction fetchUnits n w path cur u with
  | case1 => omega
  | case8 n w path cur u url ref _ us cs hlk hpath su _ ihsu ihkids =>
    have hdec := muF_import w path cur url (lookup_mem_keys hlk) (by simpa using hpath)
    refine seqR_of (· ≠ .fuel) (ihsu (by omega)) (allR_of (· ≠ .fuel) nofun fun k _ => ?_)
    split
    · nofun
    -- `iteInduction`, not `split`: that is slow to check on a term of this size
    · exact iteInduction (motive := (· ≠ R.fuel)) (fun _ => ihkids _ (by omega)) fun _ => nofun
  | _ => nofun

/-! Components: the encapsulation hierarchy of a file is a tree (C09 proves that the mutators keep it acyclic); here it
    is a hypothesis, in the form of a rank that decreases from a component to its children.  `H` bounds every pair, not
    only the world's, so that `muC_import` needs no membership. -/
def Ranked (w : World) (h : String × String → Nat) (H : Nat) : Prop :=
  (∀ p, h p ≤ H) ∧
  ∀ f us cs c k kc, w.lookup f = some (.model us cs) → c ∈ cs → k ∈ c.kids → findC cs k = some kc →
    h (f, kc.name) < h (f, c.name)

def InFileC (w : World) (cur : String) (c : CompE) : Prop := ∃ us cs, w.lookup cur = some (.model us cs) ∧ c ∈ cs

theorem InFileC.mem {w : World} {cur : String} {c : CompE} {us : List UnitsE} {cs : List CompE} (hin : InFileC w cur c)
    (hcur : w.lookup cur = some (.model us cs)) : c ∈ cs := by
  obtain ⟨us0, cs0, hlk0, hc⟩ := hin
  rw [hcur] at hlk0
  cases hlk0
  exact hc

/-- every import step that is left is worth a whole hierarchy of ranks -/
def muC (w : World) (h : String × String → Nat) (H : Nat) (path : List String) (cur : String) (c : CompE) : Nat :=
  muF w path cur * (H + 1) + h (cur, c.name)

theorem muC_kid {w : World} {h : String × String → Nat} {H : Nat} (hr : Ranked w h H) (path : List String)
    {cur : String} {us : List UnitsE} {cs : List CompE} {c kc : CompE} {k : String}
    (hlk : w.lookup cur = some (.model us cs)) (hc : c ∈ cs) (hk : k ∈ c.kids) (hf : findC cs k = some kc) :
    muC w h H path cur kc < muC w h H path cur c :=
  Nat.add_lt_add_left (hr.2 cur us cs c k kc hlk hc hk hf) _

theorem muC_import {w : World} {h : String × String → Nat} {H : Nat} (hr : Ranked w h H) {path : List String}
    {cur url : String} (c c' : CompE) (hu : url ∈ filesOf w) (hp : ¬ url ∈ path) :
    muC w h H (path ++ [cur]) url c' < muC w h H path cur c := by
  have hdec : muF w (path ++ [cur]) url + 1 ≤ muF w path cur := muF_import w path cur url hu hp
  have hmul := Nat.mul_le_mul_right (H + 1) hdec
  have := hr.1 (url, c'.name)
  rw [Nat.add_mul] at hmul
  unfold muC
  omega

theorem muF_import_lt_muC {w : World} (h : String × String → Nat) (H : Nat) {path : List String} {cur url : String}
    (c : CompE) (hu : url ∈ filesOf w) (hp : ¬ url ∈ path) : muF w (path ++ [cur]) url < muC w h H path cur c :=
  Nat.lt_of_lt_of_le (muF_import w path cur url hu hp)
    (Nat.le_trans (Nat.le_mul_of_pos_right _ (Nat.succ_pos H)) (Nat.le_add_right _ _))

theorem ownKids_ne_fuel {w : World} {h : String × String → Nat} {H : Nat} (hr : Ranked w h H) {n : Nat}
    {path : List String} {cur : String} {c : CompE} {us : List UnitsE} {cs : List CompE}
    (hlk : w.lookup cur = some (.model us cs)) (hin : InFileC w cur c) (hn : muC w h H path cur c < n + 1)
    (ih : ∀ kc, muC w h H path cur kc < n → InFileC w cur kc → fetchComponent n w path cur kc ≠ .fuel) :
    allR (fun k => match findC cs k with | none => .ok | some kc => fetchComponent n w path cur kc) c.kids ≠ .fuel :=
  allKids_of (· ≠ .fuel) nofun fun _ hk kc hf =>
    ih kc (Nat.lt_of_lt_of_le (muC_kid hr path hlk (hin.mem hlk) hk hf) (Nat.le_of_lt_succ hn))
      ⟨us, cs, hlk, findC_mem hf⟩

theorem fetchComponent_ne_fuel (w : World) (h : String × String → Nat) (H : Nat) (hr : Ranked w h H)
    (n : Nat) (path : List String) (cur : String) (c : CompE)
    (hn : muC w h H path cur c < n) (hin : InFileC w cur c) : fetchComponent n w path cur c ≠ .fuel := by
  fun_induction fetchComponent n w path cur c with
  | case1 => omega
  | case3 n w path cur c us cs hlk _ _ ihown => exact ownKids_ne_fuel hr hlk hin hn fun kc => ihown kc hr
  | case9 n w path cur c us cs hlk _ url ref _ us' cs' hlk' hpath sc hf _ ihkids ihown =>
    have hu : url ∈ filesOf w := lookup_mem_keys hlk'
    have hp : ¬ url ∈ path := by simpa using hpath
    -- `ihkids` is stated for every component, so it serves for `sc` as well
    have hcomp : ∀ {k kc}, findC cs' k = some kc → fetchComponent n w (path ++ [cur]) url kc ≠ .fuel :=
      fun {_ kc} hk => ihkids kc hr (Nat.lt_of_lt_of_le (muC_import hr c kc hu hp) (Nat.le_of_lt_succ hn))
        ⟨us', cs', hlk', findC_mem hk⟩
    -- `sc`, its children, the units of its subtree, and (in a library model) the children of `c`
    refine seqR_of (· ≠ .fuel) (hcomp hf) ?_
    refine seqR_of (· ≠ .fuel) (allKids_of (· ≠ .fuel) nofun fun k _ kc hk => hcomp hk) ?_
    refine seqR_of (· ≠ .fuel) (allR_of (· ≠ .fuel) nofun fun un _ => ?_) ?_
    · split
      · nofun
      · exact fetchUnits_ne_fuel n w _ _ _ (Nat.lt_of_lt_of_le (muF_import_lt_muC h H c hu hp) (Nat.le_of_lt_succ hn))
    · exact iteInduction (motive := (· ≠ R.fuel)) (fun _ => nofun) fun _ =>
        ownKids_ne_fuel hr hlk hin hn fun kc => ihown kc hr
  | _ => nofun

/-! `fuelFor`: `muF ≤ 2 * w.length` and a rank is at most `compBound w`, so
    `muC ≤ 2 * w.length * (compBound w + 1) + compBound w`, which is below `fuelFor w`; `fetchUnits` needs `muF` only. -/

theorem fetchUnits_fuelFor (w : World) (origin : String) (u : UnitsE) :
    fetchUnits (fuelFor w) w [] origin u ≠ .fuel := by
  refine fetchUnits_ne_fuel _ w [] origin u ?_
  have := muF_le w [] origin
  have : 2 * w.length + 1 ≤ (2 * w.length + 1) * (compBound w + 1) := Nat.le_mul_of_pos_right _ (by omega)
  unfold fuelFor
  omega

theorem fetchComponent_fuelFor (w : World) (origin : String) (h : String × String → Nat) (hr : Ranked w h (compBound w))
    (c : CompE) (hin : InFileC w origin c) : fetchComponent (fuelFor w) w [] origin c ≠ .fuel := by
  refine fetchComponent_ne_fuel w h _ hr _ [] origin c ?_ hin
  have := hr.1 (origin, c.name)
  have := Nat.mul_le_mul_right (compBound w + 1) (Nat.le_trans (muF_le w [] origin) (Nat.le_add_right _ 1))
  unfold fuelFor muC
  omega

/-! What follows belongs to a measure that also has a step into local units (`loc`: those entered so far), which
    `fetchUnits` does not take; nothing in the development uses `pair_mem`, `findU_mem`, `mu`, `mu_local` or `InFile`. -/

theorem pair_mem {w : World} {cur : String} {us : List UnitsE} {cs : List CompE} {u : UnitsE}
    (h : w.lookup cur = some (.model us cs)) (hu : u ∈ us) : (cur, u.name) ∈ unitPairs w := by
  have := lookup_mem h
  exact List.mem_flatMap.mpr ⟨(cur, .model us cs), this, List.mem_map.mpr ⟨u, hu, rfl⟩⟩

theorem findU_mem {us : List UnitsE} {k : String} {u : UnitsE} (h : findU us k = some u) : u ∈ us :=
  List.mem_of_find?_eq_some h

def mu (w : World) (path : List String) (cur : String) (loc : List (String × String)) : Nat :=
  2 * ((filesOf w).filter fun f => !path.contains f && f != cur).length + (if path.contains cur then 0 else 1)
    + ((unitPairs w).filter fun p => !loc.contains p).length

theorem mu_local (w : World) (path : List String) (cur : String) (loc : List (String × String)) (p : String × String)
    (hp : p ∈ unitPairs w) (hl : loc.contains p = false) : mu w path cur (p :: loc) < mu w path cur loc := by
  have := length_filter_not_mem_lt (unitPairs w) (List.subset_cons_self p loc) hp (by simpa using hl) (.head _)
  unfold mu
  omega

def InFile (w : World) (cur : String) (u : UnitsE) : Prop := ∃ us cs, w.lookup cur = some (.model us cs) ∧ u ∈ us

end Cellml.Import
