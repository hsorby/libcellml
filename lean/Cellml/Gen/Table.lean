/-
  C03 — the decision table: what the parenthesisation tests of `generateOperatorCode` & co. guarantee about the
  level at which an un-parenthesised operand is printed.  `floor p a` is a lower bound of that level computed from
  the head of the operand only (the same information the C++ tests read).

  `floor` asks the head tests in the order of their levels, so it is at least `n` as soon as the tests of the levels
  below `n` fail; every parenthesisation test is a disjunction of head tests.  Levels: 5 additive, 6 multiplicative,
  7 prefix (`unLvl`), 8 primary (`topLvl`).
-/
import Cellml.Gen.Spec
namespace Cellml.Gen

theorem isNul_cases (r : Ast) : r = .nul ∨ isNul r = false := by
  cases r with
  | nul => exact Or.inl rfl
  | _ => exact Or.inr rfl

theorem hasRight_node (ty : Ty) (l r : Ast) : hasRight (.node ty l r) = !isNul r := by
  cases r <;> rfl

theorem hasRight_of {ty : Ty} {l r : Ast} (hn : isNul r = false) : hasRight (.node ty l r) = true := by
  rw [hasRight_node, hn]; rfl

-- a LOG with a base is printed as the quotient `ln x / ln b`
def mult (a : Ast) : Bool := isTimes a || isDivide a || isLogB a

def floor (p : Profile) (a : Ast) : Nat :=
  if isPiecewise p a then 0
  else if isOr p a then 1
  else if isAnd p a then 2
  else if isRel p a then (if isTy .EQ a || isTy .NEQ a then 3 else 4)
  else if sum2 a then 5
  else if mult a then 6
  else if isMinus a then (if mult (leftOf a) then 6 else 7)
  else 7

variable {p : Profile} {a : Ast}

theorem le_floor {n : Nat} (h7 : n ≤ 7) (h0 : isPiecewise p a = true → n ≤ 0) (h1 : isOr p a = true → n ≤ 1)
    (h2 : isAnd p a = true → n ≤ 2) (h3 : isRel p a = true → n ≤ 3) (h5 : sum2 a = true → n ≤ 5)
    (h6 : mult a = true → n ≤ 6) (h6' : isMinus a = true → mult (leftOf a) = true → n ≤ 6) : n ≤ floor p a :=
  iteInduction h0 fun _ =>
  iteInduction h1 fun _ =>
  iteInduction h2 fun _ =>
  iteInduction (fun h => iteInduction (fun _ => h3 h) fun _ => Nat.le_succ_of_le (h3 h)) fun _ =>
  iteInduction h5 fun _ =>
  iteInduction h6 fun _ =>
  iteInduction (fun h => iteInduction (h6' h) fun _ => h7) fun _ =>
  h7

theorem floor_le_7 (a : Ast) : floor p a ≤ 7 := by
  fun_cases floor p a <;> decide

theorem floor_or (hp : isPiecewise p a = false) : 1 ≤ floor p a :=
  -- `simp` with the failed test excludes a level below the bound; from the bound on, evaluation
  le_floor (h7 := by decide) (h0 := by simp [hp]) (h1 := fun _ => by decide) (h2 := fun _ => by decide)
    (h3 := fun _ => by decide) (h5 := fun _ => by decide) (h6 := fun _ => by decide) (h6' := fun _ _ => by decide)

theorem floor_and (ho : isOr p a = false) (hp : isPiecewise p a = false) : 2 ≤ floor p a :=
  le_floor (h7 := by decide) (h0 := by simp [hp]) (h1 := by simp [ho]) (h2 := fun _ => by decide)
    (h3 := fun _ => by decide) (h5 := fun _ => by decide) (h6 := fun _ => by decide) (h6' := fun _ _ => by decide)

theorem floor_low (h : low p a = false) : 5 ≤ floor p a := by
  simp only [low, isLogical, Bool.or_eq_false_iff] at h
  exact le_floor (h7 := by decide) (h0 := by simp [h]) (h1 := by simp [h]) (h2 := by simp [h]) (h3 := by simp [h])
    (h5 := fun _ => by decide) (h6 := fun _ => by decide) (h6' := fun _ _ => by decide)

theorem floor_low_sum (h : low p a = false) (hs : sum2 a = false) : 6 ≤ floor p a := by
  simp only [low, isLogical, Bool.or_eq_false_iff] at h
  exact le_floor (h7 := by decide) (h0 := by simp [h]) (h1 := by simp [h]) (h2 := by simp [h]) (h3 := by simp [h])
    (h5 := by simp [hs]) (h6 := fun _ => by decide) (h6' := fun _ _ => by decide)

theorem floor_divisor (h : low p a = false) (hs : sum2 a = false) (hm : mult a = false)
    (hu : isMinus a = true → mult (leftOf a) = false) : 7 ≤ floor p a := by
  simp only [low, isLogical, Bool.or_eq_false_iff] at h
  exact le_floor (h7 := by decide) (h0 := by simp [h]) (h1 := by simp [h]) (h2 := by simp [h]) (h3 := by simp [h])
    (h5 := by simp [hs]) (h6 := by simp [hm]) (h6' := fun h1 h2 => by simp [hu h1] at h2)

/-- a lower bound of the level of a left operand that `parenLeft p k` leaves bare.  Nothing is claimed of `.xor`,
    `.power` (operators no supported profile has) and `.none` (the assignment). -/
def PK.left : PK → Nat
  | .relplus | .minus => 5
  | .times | .divide => 6
  | .and => 2
  | .or => 1
  | .xor | .power | .none => 0

/-- the same for the right operand and `parenRight` -/
def PK.right : PK → Nat
  | .relplus => 5
  | .minus | .times => 6
  | .divide => 7
  | .and => 2
  | .or => 1
  | .xor | .power | .none => 0

theorem floor_left {k : PK} {l : Ast} (h : parenLeft p k l = false) : k.left ≤ floor p l := by
  cases k <;> simp only [parenLeft, Bool.or_eq_false_iff] at h
  case relplus | minus => exact floor_low h
  case times | divide => exact floor_low_sum h.1 h.2
  case and => exact floor_and (ho := by simp [h]) (hp := by simp [h])
  case or => exact floor_or (hp := by simp [h])
  all_goals exact Nat.zero_le _

theorem floor_right {k : PK} {l r : Ast} {rd : Doc} (h : parenRight p k l r rd = false) : k.right ≤ floor p r := by
  cases k <;> simp only [parenRight, Bool.or_eq_false_iff] at h
  case relplus => exact floor_low h
  case minus =>
    -- neither a difference nor a binary sum
    exact floor_low_sum (h := by simp [h]) (hs := by simp [sum2, h])
  case times => exact floor_low_sum h.1 h.2
  case divide =>
    obtain ⟨⟨⟨⟨⟨hlow, ht⟩, hd⟩, hlb⟩, hs⟩, hu⟩ := h
    refine floor_divisor hlow hs (by simp [mult, ht, hd, hlb]) (fun hm => ?_)
    -- a difference would be a `sum2`, so the minus is unary
    have hr : hasRight r = false := by simpa [sum2, hm] using hs
    simpa [hm, hr, mult] using hu
  case and => exact floor_and (ho := by simp [h]) (hp := by simp [h])
  case or => exact floor_or (hp := by simp [h])
  all_goals exact Nat.zero_le _

/-- the operand test of `generateMinusUnaryCode` -/
theorem floor_negated {b : Bool}
    (h : (isNeg a || isRel p a || isLogical p a || isPlus a || isMinus a || isPiecewise p a || b) = false) :
    6 ≤ floor p a ∧ (mult a = false → 7 ≤ floor p a) := by
  simp only [Bool.or_eq_false_iff] at h
  have hlow : low p a = false := by simp [low, h]
  have hs : sum2 a = false := by simp [sum2, h]
  exact ⟨floor_low_sum hlow hs, fun hmu => floor_divisor hlow hs hmu (by simp [h])⟩

theorem unaryPlus_eq (h : (isPlus a && !hasRight a) = true) : ∃ l, a = .node .PLUS l .nul := by
  cases a with
  | node ty l r =>
    simp only [isPlus, isTy, Bool.and_eq_true, decide_eq_true_eq] at h
    obtain ⟨rfl, hr⟩ := h
    cases r
    · exact ⟨l, rfl⟩
    all_goals cases hr
  | _ => cases h

/-- the operand test of NOT and of a unary plus -/
theorem floor_opexpr (h : isOpExpr p a = false) : 7 ≤ floor p a := by
  revert h
  fun_cases isOpExpr p a with
  | case1 hunary =>
    obtain ⟨l, rfl⟩ := unaryPlus_eq hunary
    -- no head test fires on a unary plus: its floor evaluates to 7
    exact fun _ => Nat.le_refl 7
  | case2 hother =>
    intro h
    simp only [Bool.or_eq_false_iff] at h
    exact floor_divisor (h := by simp [low, h]) (hs := by simp [sum2, h]) (hm := by simp [mult, h]) (hu := by simp [h])

end Cellml.Gen
