/-
  C03 — soundness of the generator's parenthesisation: for every expression tree the generated document is
  sufficiently parenthesised (`ok`) and its value is the value of the tree.

  The claim is made of documents first (`Good`): one lemma for each way `genDoc` builds the document of a node from
  those of its operands.  At a concrete node type `genDoc` and `evalAst` unfold to these forms by computation, so a
  case of the induction reads like the text of `genDoc`.
-/
import Cellml.Gen.Table
import Cellml.Gen.Printer
namespace Cellml.Gen

variable {p : Profile} {I : Interp}

theorem leads_eq_heads (d : Doc) : leads p d = heads p.style .minus d := by
  fun_induction leads p d <;> simp [heads, *]

theorem heads_ok {st : CondStyle} {o : Op} (d : Doc) : ok st d = true → heads st o d = true → o = .minus ∨ o = .not := by
  -- the branches of `heads`: 1 atom, 2 bin, 3 pre, 4 call1, 5 call2, 6 Python conditional, 7 other conditional, 8 paren
  fun_induction heads st o d with
  | case1 lead s =>
    intro _ h
    exact Or.inl (by simpa using (Bool.and_eq_true_iff.1 h).2)
  | case2 o' l r ih =>
    intro h
    simp only [ok, Bool.and_eq_true] at h
    obtain ⟨⟨⟨⟨⟨_, hl⟩, _⟩, _⟩, _⟩, _⟩ := h
    exact ih hl
  | case3 o' x =>
    -- `ok` admits the prefix operators `-` and `!` only
    intro h hh
    simp only [decide_eq_true_eq] at hh
    simp only [ok, Bool.or_eq_true, Bool.and_eq_true, decide_eq_true_eq] at h
    rcases h with ⟨⟨⟨ho, _⟩, _⟩, _⟩ | ⟨⟨⟨ho, _⟩, _⟩, _⟩
    · exact Or.inl (hh ▸ ho)
    · exact Or.inr (hh ▸ ho)
  | case6 c a b hpy ih =>
    intro h
    simp only [ok, Bool.and_eq_true] at h
    obtain ⟨⟨⟨_, ha⟩, _⟩, _⟩ := h
    exact ih ha
  | case4 | case5 | case7 | case8 => exact fun _ h => nomatch h

@[simp] theorem ok_wrap (st : CondStyle) (b : Bool) (d : Doc) : ok st (wrap b d) = ok st d := by
  cases b <;> rfl
@[simp] theorem eval_wrap (b : Bool) (d : Doc) : evalDoc I (wrap b d) = evalDoc I d := by
  cases b <;> rfl

theorem lvl_wrap {b : Bool} {d : Doc} {n : Nat} (hn : n ≤ topLvl) (h : b = false → n ≤ lvl d) : n ≤ lvl (wrap b d) := by
  cases b
  · exact h rfl
  · exact hn

theorem heads_wrap {st : CondStyle} {o : Op} {b : Bool} {d : Doc} (h : b = false → heads st o d = false) :
    heads st o (wrap b d) = false := by
  cases b
  · exact h rfl
  · rfl

/-- may the tests of class `k` print the operator `o`?  They leave both operands at the levels `o` requires; only
    those of `.minus` look for a leading minus sign in the right operand. -/
def fits (k : PK) (o : Op) : Bool :=
  o.isBin && decide (o.lvl ≤ k.left) && decide (reqR o ≤ k.right) && (o != .minus || k == .minus)

@[simp] theorem eval_binop (k : PK) (o : Op) (l r : Ast) (ld rd : Doc) :
    evalDoc I (binop p k o l r ld rd) = o.sem (evalDoc I ld) (evalDoc I rd) := by
  simp [binop, evalDoc]

@[simp] theorem eval_relLogic (has : Bool) (k : PK) (o : Op) (l r : Ast) (ld rd : Doc) :
    evalDoc I (relLogic p has k o l r ld rd) = relLogicSem p I has o (evalDoc I ld) (evalDoc I rd) := by
  cases has
  · rfl
  · exact eval_binop k o l r ld rd

@[simp] theorem eval_minusUnary (l : Ast) (ld : Doc) : evalDoc I (minusUnary p l ld) = -(evalDoc I ld) :=
  congrArg Neg.neg (eval_wrap _ ld)

/-- what the induction carries for every expression tree -/
structure Inv (p : Profile) (I : Interp) (t : Ast) : Prop where
  ok : ok p.style (genDoc p t) = true
  ev : ∀ els, evalAst p I els t = evalDoc I (genDoc p t)
  fl : floor p t ≤ lvl (genDoc p t)
  hn : isOpExpr p t = false → heads p.style .not (genDoc p t) = false

/-- `Inv` with a document `d` and a value `v` in place of `genDoc p t` and `evalAst p I els t`:
    `Inv p I t ↔ ∀ els, Good p I t (genDoc p t) (evalAst p I els t)` (`Inv.of`, `Inv.good`).  `d` need not be the
    generated document (the `1.0` over the degree of a root is not).  `fl` ties the decision table to `ok`: the head
    tests bound `floor`, and `floor` bounds the level at which the document parses.  `hn` is for the operand that NOT
    or a unary plus leaves bare: it must not start with `!` (`ok` excludes a repeated prefix operator). -/
structure Good (p : Profile) (I : Interp) (t : Ast) (d : Doc) (v : Rat) : Prop where
  ok : ok p.style d = true
  ev : v = evalDoc I d
  fl : floor p t ≤ lvl d
  hn : isOpExpr p t = false → heads p.style .not d = false

variable {t a b : Ast} {d da db : Doc} {v va vb : Rat}

theorem Inv.of (h : ∀ els, Good p I t (genDoc p t) (evalAst p I els t)) : Inv p I t :=
  ⟨(h 0).ok, fun els => (h els).ev, (h 0).fl, (h 0).hn⟩

theorem Inv.good (h : Inv p I t) (els : Rat) : Good p I t (genDoc p t) (evalAst p I els t) :=
  ⟨h.ok, h.ev els, h.fl, h.hn⟩

theorem good_ite {c : Prop} [Decidable c] {d₁ d₂ : Doc} {v₁ v₂ : Rat} (h₁ : c → Good p I t d₁ v₁)
    (h₂ : ¬c → Good p I t d₂ v₂) : Good p I t (if c then d₁ else d₂) (if c then v₁ else v₂) := by
  by_cases h : c
  · rw [if_pos h, if_pos h]; exact h₁ h
  · rw [if_neg h, if_neg h]; exact h₂ h

theorem good_of_unLvl (hok : ok p.style d = true) (he : v = evalDoc I d) (h7 : unLvl ≤ lvl d)
    (hh : heads p.style .not d = false) : Good p I t d v :=
  ⟨hok, he, Nat.le_trans (floor_le_7 t) h7, fun _ => hh⟩

theorem good_atom {lead : Bool} {s : String} : Good p I t (.atom lead s) (atomSem I lead s) := by
  -- `atomSem I lead s` is `evalDoc I (.atom lead s)` word for word
  refine good_of_unLvl rfl rfl ?_ ?_
  · cases lead
    · exact Nat.le_succ unLvl
    · exact Nat.le_refl unLvl
  · cases lead <;> rfl

theorem good_call1 {f : String} (ha : Good p I a da va) : Good p I t (.call1 f da) (I.fn1 f va) :=
  good_of_unLvl ha.ok (congrArg _ ha.ev) (Nat.le_succ unLvl) rfl

theorem good_call2 {f : String} (ha : Good p I a da va) (hb : Good p I b db vb) :
    Good p I t (.call2 f da db) (I.fn2 f va vb) :=
  good_of_unLvl (by simp [ok, ha.ok, hb.ok]) (by rw [ha.ev, hb.ev]; rfl) (Nat.le_succ unLvl) rfl

theorem good_bin {o : Op} (hok : ok p.style (.bin o da db) = true) (he : v = evalDoc I (.bin o da db))
    (hf : floor p t = o.lvl) : Good p I t (.bin o da db) v := by
  refine ⟨hok, he, Nat.le_of_eq hf, fun h => ?_⟩
  -- a floor below 7 belongs to an operator expression
  have := floor_opexpr h
  rw [hf] at this
  exact absurd (Nat.le_trans this o.lvl_le) (by decide)

/-- `generateOperatorCode`: an operand left bare is printed at a level the operator accepts,
    `o.lvl ≤ k.left ≤ floor p a ≤ lvl da` by `fits`, the table and `Good.fl` -/
theorem good_binop {k : PK} {o : Op} (hk : fits k o = true) (ha : Good p I a da va) (hb : Good p I b db vb)
    (hf : floor p t = o.lvl) : Good p I t (binop p k o a b da db) (o.sem va vb) := by
  simp only [fits, Bool.and_eq_true, Bool.or_eq_true, decide_eq_true_eq, bne_iff_ne, beq_iff_eq] at hk
  obtain ⟨⟨⟨hbin, hL⟩, hR⟩, hm⟩ := hk
  have hh : parenRight p k a b db = false → heads p.style o db = false := fun h => by
    by_cases ho : o = .minus
    · subst ho
      obtain rfl : k = .minus := hm.resolve_left (fun hne => hne rfl)
      -- `leads` is among the tests of `.minus`
      simp only [parenRight, Bool.or_eq_false_iff] at h
      obtain ⟨⟨_, hlead⟩, _⟩ := h
      rw [← leads_eq_heads]; exact hlead
    · -- a sufficiently parenthesised document starts with no binary operator but `-`
      cases hd : heads p.style o db
      · rfl
      · rcases heads_ok db hb.ok hd with h1 | h1
        · exact absurd h1 ho
        · subst h1; cases hbin
  have h7 : k.left ≤ 7 ∧ k.right ≤ 7 := by cases k <;> decide
  have hla : parenLeft p k a = false → o.lvl ≤ lvl da := fun h =>
    calc o.lvl ≤ k.left := hL
      _ ≤ floor p a := floor_left h
      _ ≤ lvl da := ha.fl
  have hrb : parenRight p k a b db = false → reqR o ≤ lvl db := fun h =>
    calc reqR o ≤ k.right := hR
      _ ≤ floor p b := floor_right h
      _ ≤ lvl db := hb.fl
  have hLt : o.lvl ≤ topLvl := Nat.le_trans hL (Nat.le_trans h7.1 (by decide))
  have hRt : reqR o ≤ topLvl := Nat.le_trans hR (Nat.le_trans h7.2 (by decide))
  have hev : o.sem va vb = evalDoc I (binop p k o a b da db) := by
    rw [ha.ev, hb.ev]
    exact (eval_binop k o a b da db).symm
  refine good_bin ?_ hev hf
  simp only [ok, ok_wrap, hbin, ha.ok, hb.ok, Bool.true_and, Bool.and_eq_true, decide_eq_true_eq, Bool.not_eq_true']
  exact ⟨⟨lvl_wrap hLt hla, lvl_wrap hRt hrb⟩, heads_wrap hh⟩

theorem good_relLogic {has : Bool} {k : PK} {o : Op} (hk : fits k o = true) (ha : Good p I a da va)
    (hb : Good p I b db vb) (hf : has = true → floor p t = o.lvl) :
    Good p I t (relLogic p has k o a b da db) (relLogicSem p I has o va vb) := by
  cases has
  · exact good_call2 ha hb
  · exact good_binop hk ha hb (hf rfl)

theorem opexpr_operand (ha : Good p I a da va) :
    unLvl ≤ lvl (wrap (isOpExpr p a) da) ∧ heads p.style .not (wrap (isOpExpr p a) da) = false :=
  ⟨lvl_wrap (by decide) (fun h => Nat.le_trans (floor_opexpr h) ha.fl), heads_wrap ha.hn⟩

theorem good_operand (ha : Good p I a da va) : Good p I t (wrap (isOpExpr p a) da) va :=
  good_of_unLvl ((ok_wrap _ _ _).trans ha.ok) (ha.ev.trans (eval_wrap _ _).symm) (opexpr_operand ha).1 (opexpr_operand ha).2

theorem good_not (ha : Good p I a da va) (ho : isOpExpr p t = true) :
    Good p I t (.pre .not (wrap (isOpExpr p a) da)) (preSem .not va) := by
  obtain ⟨h7, hhd⟩ := opexpr_operand ha
  refine ⟨?_, by simp [evalDoc, ha.ev], floor_le_7 _, fun h => absurd ho (ne_true_of_eq_false h)⟩
  simpa [ok, ha.ok, hhd] using h7

/-- `generateMinusUnaryCode`: `-x` is a prefix expression, or (`-a*b`) a product -/
theorem good_minusUnary (ha : Good p I a da va) (hf : floor p t = if mult a = true then 6 else 7)
    (ho : isOpExpr p t = true) : Good p I t (minusUnary p a da) (-va) := by
  have hev : -va = evalDoc I (minusUnary p a da) := (congrArg Neg.neg ha.ev).trans (eval_minusUnary a da).symm
  generalize hw : (isNeg a || isRel p a || isLogical p a || isPlus a || isMinus a || isPiecewise p a || leads p da) = w
  have hd : minusUnary p a da = .pre .minus (wrap w da) := by rw [← hw]; rfl
  have h6 : w = false → 6 ≤ lvl da := fun h => Nat.le_trans (floor_negated (hw.trans h)).1 ha.fl
  have h7 : w = false → mult a = false → 7 ≤ lvl da := fun h hm =>
    Nat.le_trans ((floor_negated (hw.trans h)).2 hm) ha.fl
  have hlead : w = false → heads p.style .minus da = false := fun h => by
    subst h
    simp only [Bool.or_eq_false_iff] at hw
    rw [← leads_eq_heads]
    exact hw.2
  have h6w : 6 ≤ lvl (wrap w da) := lvl_wrap (by decide) h6
  have hh : heads p.style .minus (wrap w da) = false := heads_wrap hlead
  rw [hd] at hev ⊢
  refine ⟨?_, hev, ?_, fun h => absurd ho (ne_true_of_eq_false h)⟩
  · simp [ok, ha.ok, h6w, hh]
  · rw [hf]
    show (if mult a = true then 6 else 7) ≤ if 7 ≤ lvl (wrap w da) then 7 else 6
    cases hm : mult a
    · rw [if_pos (lvl_wrap (by decide) (fun h => h7 h hm))]
      exact Nat.le_refl _
    · by_cases h7w : 7 ≤ lvl (wrap w da)
      · rw [if_pos h7w]
        exact Nat.le_succ 6
      · rw [if_neg h7w]
        exact Nat.le_refl _

theorem good_logBase (ha : Good p I a da va) (hb : Good p I b db vb) (hf : floor p t = Op.lvl .quot) :
    Good p I t (.bin .quot (.call1 p.ln da) (.call1 p.ln db)) (I.fn1 p.ln va / I.fn1 p.ln vb) :=
  good_bin (by simp [ok, ha.ok, hb.ok, Op.isBin, lvl, Op.lvl, reqR, Op.assoc, topLvl, heads]) (by rw [ha.ev, hb.ev]; rfl) hf

@[simp] theorem eval_pieceDoc (v c : Ast) (vd cd els : Doc) :
    evalDoc I (pieceDoc p v c vd cd els) = condSem (evalDoc I cd) (evalDoc I vd) (evalDoc I els) := by
  simp [pieceDoc, evalDoc]

/-- a PIECE: any (sufficiently parenthesised) else-part may be appended -/
structure PieceInv (p : Profile) (I : Interp) (t : Ast) : Prop where
  ok : ∀ e, ok p.style e = true → ok p.style (setElse (genDoc p t) e) = true
  ev : ∀ e, evalAst p I (evalDoc I e) t = evalDoc I (setElse (genDoc p t) e)

/-- the right child of a PIECEWISE node -/
structure LastInv (p : Profile) (I : Interp) (r : Ast) : Prop where
  ok : ok p.style (elseOf p r (genDoc p r)) = true
  ev : evalAst p I (I.atom p.nan) r = evalDoc I (elseOf p r (genDoc p r))

theorem inv_piece (hs : Supported p) {v c : Ast} (hv : Inv p I v) (hc : Inv p I c) : PieceInv p I (.node .PIECE v c) := by
  obtain ⟨_, _, _, hstyle⟩ := hs
  refine ⟨fun e he => ?_, fun e => ?_⟩
  · show ok p.style (pieceDoc p v c (genDoc p v) (genDoc p c) e) = true
    simp only [pieceDoc, ok, ok_wrap, hv.ok, hc.ok, he, Bool.true_and, Bool.or_eq_true, Bool.and_eq_true, decide_eq_true_eq]
    -- in Python the value and the condition stand at level 1
    rcases hstyle with h | h
    · left; simp [h]
    · right
      exact ⟨⟨by simp [h], lvl_wrap (by decide) (fun hh => Nat.le_trans (floor_or hh) hv.fl)⟩,
        lvl_wrap (by decide) (fun hh => Nat.le_trans (floor_or hh) hc.fl)⟩
  · show condSem (evalAst p I (I.atom p.nan) c) (evalAst p I (I.atom p.nan) v) (evalDoc I e)
      = evalDoc I (pieceDoc p v c (genDoc p v) (genDoc p c) e)
    rw [eval_pieceDoc, hv.ev, hc.ev]

/-- a PIECEWISE node is its first piece with the rest of the chain (NaN if none) as else-part, and itself a
    possible rest -/
theorem inv_piecewise (hs : Supported p) {l r : Ast} (hl : PieceInv p I l)
    (hok : ok p.style (elseOf p r (genDoc p r)) = true)
    (he : ∀ els, evalAst p I els (.node .PIECEWISE l r) = evalAst p I (evalDoc I (elseOf p r (genDoc p r))) l) :
    Inv p I (.node .PIECEWISE l r) ∧ LastInv p I (.node .PIECEWISE l r) := by
  obtain ⟨_, _, hcond, _⟩ := hs
  have hi : Inv p I (.node .PIECEWISE l r) :=
    ⟨hl.ok _ hok, fun els => (he els).trans (hl.ev _),
      -- at a PIECEWISE node `floor` is 0 and `isOpExpr` is `p.hasCond`
      Nat.le_trans (Nat.le_of_eq (if_pos hcond)) (Nat.zero_le _),
      fun h => absurd hcond (ne_true_of_eq_false (show p.hasCond = false from h))⟩
  exact ⟨hi, hi.ok, hi.ev _⟩

/-- what holds of a tree in each position the analyser can put it (`exprOK`); at a concrete position it is that
    position's invariant by reduction -/
def InvAt (p : Profile) (I : Interp) : Ctx → Ast → Prop
  | .expr, t => Inv p I t
  | .degree, t => ∃ d, t = .node .DEGREE d .nul ∧ Inv p I d
  | .logbase, t => ∃ d, t = .node .LOGBASE d .nul ∧ Inv p I d
  | .piece, t => PieceInv p I t
  | .last, t => LastInv p I t

/-- the induction, for every position at once: a ROOT, LOG or PIECEWISE node reaches its grandchildren through the
    positions of its children -/
theorem inv_ctx (hs : Supported p) (t : Ast) : ∀ c, exprOK c t = true → InvAt p I c t := by
  induction t with
  | nul => intro c h; cases h
  | cn _ | ci _ =>
    intro c h
    cases c
    case expr => exact .of fun _ => good_atom
    all_goals cases h
  | node ty l r ihl ihr =>
    -- the forms `exprOK` takes at a node — two operands, an optional right operand, a qualifier, a piece, a chain —
    -- each opened once
    have gl := fun h => (ihl .expr h).good (I.atom p.nan)
    have gr := fun h => (ihr .expr h).good (I.atom p.nan)
    have both := fun (h : (exprOK .expr l && exprOK .expr r) = true) =>
      And.intro (gl (Bool.and_eq_true_iff.1 h).1) (gr (Bool.and_eq_true_iff.1 h).2)
    have sum : (exprOK .expr l && (isNul r || exprOK .expr r)) = true →
        Good p I l (genDoc p l) (evalAst p I (I.atom p.nan) l)
          ∧ (r = .nul ∨ isNul r = false ∧ Good p I r (genDoc p r) (evalAst p I (I.atom p.nan) r)) := fun h => by
      simp only [Bool.and_eq_true, Bool.or_eq_true] at h
      obtain ⟨hl, hr⟩ := h
      obtain rfl | hn := isNul_cases r
      · exact ⟨gl hl, Or.inl rfl⟩
      · exact ⟨gl hl, Or.inr ⟨hn, gr (hr.resolve_left (ne_true_of_eq_false hn))⟩⟩
    have qual : ∀ q, (decide (ty = q) && exprOK .expr l && isNul r) = true →
        ∃ d, Ast.node ty l r = .node q d .nul ∧ Inv p I d := fun q h => by
      simp only [Bool.and_eq_true, decide_eq_true_eq] at h
      obtain ⟨⟨rfl, hl⟩, hr⟩ := h
      obtain rfl | hn := isNul_cases r
      · exact ⟨l, rfl, ihl .expr hl⟩
      · exact absurd hr (ne_true_of_eq_false hn)
    have piece : (decide (ty = .PIECE) && exprOK .expr l && exprOK .expr r) = true →
        PieceInv p I (.node ty l r) := fun h => by
      simp only [Bool.and_eq_true, decide_eq_true_eq] at h
      obtain ⟨⟨rfl, hl⟩, hr⟩ := h
      exact inv_piece hs (ihl .expr hl) (ihr .expr hr)
    have piecewise : (exprOK .piece l && (isNul r || exprOK .last r)) = true →
        Inv p I (.node .PIECEWISE l r) ∧ LastInv p I (.node .PIECEWISE l r) := fun h => by
      simp only [Bool.and_eq_true, Bool.or_eq_true] at h
      obtain rfl | hn := isNul_cases r
      · exact inv_piecewise hs (ihl .piece h.1) rfl (fun _ => rfl)
      · have hc := ne_true_of_eq_false hn
        have hr := ihr .last (h.2.resolve_left hc)
        exact inv_piecewise hs (ihl .piece h.1) hr.ok (fun _ => (if_neg hc).trans (congrArg (evalAst p I · l) hr.ev))
    intro c h
    cases c
    case degree => exact qual .DEGREE h
    case logbase => exact qual .LOGBASE h
    case piece => exact piece h
    case last =>
      replace h : ((decide (ty = .PIECE) && exprOK .expr l && exprOK .expr r)
          || (decide (ty = .OTHERWISE) && exprOK .expr l && isNul r)
          || (decide (ty = .PIECEWISE) && exprOK .piece l && (isNul r || exprOK .last r))) = true := h
      simp only [Bool.or_eq_true] at h
      rcases h with (h | h) | h
      · have hp := piece h
        simp only [Bool.and_eq_true, decide_eq_true_eq] at h
        obtain ⟨⟨rfl, _⟩, _⟩ := h
        -- the last piece of a chain ends in NaN
        exact ⟨hp.ok (.atom false p.nan) rfl, hp.ev (.atom false p.nan)⟩
      · simp only [Bool.and_eq_true, decide_eq_true_eq] at h
        obtain ⟨⟨rfl, hl⟩, _⟩ := h
        exact ⟨(ihl .expr hl).ok, (ihl .expr hl).ev _⟩
      · rw [Bool.and_assoc, Bool.and_eq_true, decide_eq_true_eq] at h
        obtain ⟨rfl, h⟩ := h
        exact (piecewise h).2
    case expr =>
      refine .of fun els => ?_
      cases ty
      -- `floor` at a relational or logical node computes to `if p.has… = true then o.lvl else 7`, at a binary sum or
      -- a logarithm with base to `if hasRight … = true then …`: `if_pos` opens them
      case EQ =>
        exact good_relLogic (has := p.hasEq) (k := .relplus) (o := .eq) rfl (both h).1 (both h).2 (if_pos ·)
      case NEQ =>
        exact good_relLogic (has := p.hasNeq) (k := .relplus) (o := .neq) rfl (both h).1 (both h).2 (if_pos ·)
      case LT =>
        exact good_relLogic (has := p.hasLt) (k := .relplus) (o := .lt) rfl (both h).1 (both h).2 (if_pos ·)
      case LEQ =>
        exact good_relLogic (has := p.hasLeq) (k := .relplus) (o := .leq) rfl (both h).1 (both h).2 (if_pos ·)
      case GT =>
        exact good_relLogic (has := p.hasGt) (k := .relplus) (o := .gt) rfl (both h).1 (both h).2 (if_pos ·)
      case GEQ =>
        exact good_relLogic (has := p.hasGeq) (k := .relplus) (o := .geq) rfl (both h).1 (both h).2 (if_pos ·)
      case AND =>
        exact good_relLogic (has := p.hasAnd) (k := .and) (o := .and) rfl (both h).1 (both h).2 (if_pos ·)
      case OR =>
        exact good_relLogic (has := p.hasOr) (k := .or) (o := .or) rfl (both h).1 (both h).2 (if_pos ·)
      case XOR =>
        show Good p I (.node .XOR l r) (relLogic p p.hasXor .xor .xor l r (genDoc p l) (genDoc p r))
          (I.fn2 p.xor (evalAst p I (I.atom p.nan) l) (evalAst p I (I.atom p.nan) r))
        rw [hs.1]
        exact good_call2 (f := p.xor) (both h).1 (both h).2
      case TIMES => exact good_binop (k := .times) (o := .times) rfl (both h).1 (both h).2 rfl
      case DIVIDE => exact good_binop (k := .divide) (o := .divide) rfl (both h).1 (both h).2 rfl
      case MIN => exact good_call2 (f := p.fn .MIN) (both h).1 (both h).2
      case MAX => exact good_call2 (f := p.fn .MAX) (both h).1 (both h).2
      case REM => exact good_call2 (f := p.fn .REM) (both h).1 (both h).2
      case POWER =>
        obtain ⟨hl, hr⟩ := both h
        exact good_ite (fun _ => good_call1 (f := p.sqrt) hl) fun _ =>
          good_ite (fun _ => good_call1 (f := p.square) hl) fun _ => good_call2 (f := p.power) hl hr
      case PLUS =>
        obtain ⟨hl, rfl | ⟨hn, hr⟩⟩ := sum h
        · exact good_operand hl
        · exact good_ite (absurd · (ne_true_of_eq_false hn)) fun _ =>
            good_binop (k := .relplus) (o := .plus) rfl hl hr (if_pos (hasRight_of hn))
      case MINUS =>
        obtain ⟨hl, rfl | ⟨hn, hr⟩⟩ := sum h
        · exact good_minusUnary hl rfl rfl
        · exact good_ite (absurd · (ne_true_of_eq_false hn)) fun _ =>
            good_binop (k := .minus) (o := .minus) rfl hl hr (if_pos (hasRight_of hn))
      case ROOT =>
        obtain rfl | hn := isNul_cases r
        · exact good_call1 (f := p.sqrt) (gl h)
        · have hc := ne_true_of_eq_false hn
          replace h : (exprOK .degree l && exprOK .expr r) = true := (if_neg hc).symm.trans h
          obtain ⟨d, rfl, hd⟩ := ihl .degree (Bool.and_eq_true_iff.1 h).1
          have hr := gr (Bool.and_eq_true_iff.1 h).2
          -- the quotient `1.0/d` stands where the code of a DIVIDE node would
          exact good_ite (absurd · hc) fun _ => good_ite (fun _ => good_call1 (f := p.sqrt) hr) fun _ =>
            good_call2 (f := p.power) hr
              (good_binop (t := .node .DIVIDE (.cn "1.0") d) (k := .divide) (o := .divide) rfl good_atom
                (hd.good (I.atom p.nan)) rfl)
      case LOG =>
        obtain rfl | hn := isNul_cases r
        · exact good_call1 (f := p.log10) (gl h)
        · have hc := ne_true_of_eq_false hn
          replace h : (exprOK .logbase l && exprOK .expr r) = true := (if_neg hc).symm.trans h
          obtain ⟨d, rfl, hd⟩ := ihl .logbase (Bool.and_eq_true_iff.1 h).1
          have hr := gr (Bool.and_eq_true_iff.1 h).2
          exact good_ite (absurd · hc) fun _ => good_ite (fun _ => good_call1 (f := p.log10) hr) fun _ =>
            good_logBase hr (hd.good (I.atom p.nan)) (if_pos (hasRight_of hn))
      case PIECEWISE => exact (piecewise h).1.good els
      case TRUE | FALSE | E | PI | INF | NAN => exact good_atom
      case EQUALITY | DIFF | BVAR | DEGREE | LOGBASE | PIECE | OTHERWISE => cases h
      case NOT =>
        -- `isOpExpr` of a NOT node is `p.hasNot`
        exact good_ite (fun hh => good_not (gl (Bool.and_eq_true_iff.1 h).1) (by simp [isOpExpr, isPlus, isTy, hh]))
          fun _ => good_call1 (f := p.not_) (gl (Bool.and_eq_true_iff.1 h).1)
      case ABS | EXP | LN | CEILING | FLOOR | SIN | COS | TAN | SEC | CSC | COT | SINH | COSH | TANH | SECH | CSCH | COTH
          | ASIN | ACOS | ATAN | ASEC | ACSC | ACOT | ASINH | ACOSH | ATANH | ASECH | ACSCH | ACOTH =>
        exact good_call1 (f := p.fn _) (gl (Bool.and_eq_true_iff.1 h).1)

theorem inv_expr (hs : Supported p) (t : Ast) (h : exprOK .expr t = true) : Inv p I t :=
  inv_ctx hs t .expr h

-- `inv_ctx` at three positions; the last conjunct does not need `t = .node ty a b`: it is `inv_expr` at any `a`, `b`
theorem inv_all (hs : Supported p) (t : Ast) :
    (exprOK .expr t = true → Inv p I t)
      ∧ (exprOK .piece t = true → PieceInv p I t)
      ∧ (exprOK .last t = true → LastInv p I t)
      ∧ (∀ ty a b, t = .node ty a b → (exprOK .expr a = true → Inv p I a) ∧ (exprOK .expr b = true → Inv p I b)) :=
  ⟨inv_expr hs t, inv_ctx hs t .piece, inv_ctx hs t .last, fun _ a b _ => ⟨inv_expr hs a, inv_expr hs b⟩⟩

end Cellml.Gen
