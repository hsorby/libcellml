/-
  C03 — the printer lemma: a sufficiently parenthesised document parses, at its printed level, to its own value.
  It rests on two re-bracketing facts of the grammar, both instances of `derives_spine`.
-/
import Cellml.Gen.Grammar
import Cellml.Lists
namespace Cellml.Gen

variable {st : CondStyle} {I : Interp}

theorem Op.lvl_le (o : Op) : o.lvl ≤ 6 := by
  cases o <;> decide

theorem derives_le_top {n ts v} (h : Derives st I n ts v) : n ≤ topLvl := by
  cases h with
  | up _ hn => exact Nat.le_of_lt hn
  | @bin o => exact Nat.le_trans o.lvl_le (by decide)
  | _ => decide

theorem derives_ne_nil {n ts v} (h : Derives st I n ts v) : ts ≠ [] := by
  induction h with
  | up _ _ ih => exact ih
  | _ => simp

theorem derives_down {m ts v} (h : Derives st I m ts v) : ∀ n, n ≤ m → Derives st I n ts v := by
  intro n hn
  induction hn with
  | refl => exact h
  | step _ ih =>
    -- `derives_le_top h : m + 1 ≤ topLvl` is `m < topLvl` unfolded
    exact ih (Derives.up h (derives_le_top h))

theorem b2r_ne_zero (b : Bool) : (b2r b ≠ 0) ↔ b = true := by
  cases b <;> simp [b2r]

theorem Op.assoc_cases {o : Op} (ho : o.assoc = true) : o = .plus ∨ o = .times ∨ o = .and ∨ o = .or := by
  revert ho
  cases o <;> decide

theorem sem_assoc {o o' : Op} (ho : o.assoc = true) (hb : o'.isBin = true) (hl : o'.lvl = o.lvl) (a a' b' : Rat) :
    o'.sem (o.sem a a') b' = o.sem a (o'.sem a' b') := by
  cases o
  case plus =>
    cases o'
    case plus => exact Rat.add_assoc ..
    case minus => simp only [Op.sem, Rat.sub_eq_add_neg, Rat.add_assoc]
    case assign | xor | power | not => exact absurd hb (by decide)
    case eq | neq | lt | leq | gt | geq | and | or | times | divide | quot => exact absurd hl (by decide)
  case times =>
    cases o'
    case times => exact Rat.mul_assoc ..
    case divide | quot => simp only [Op.sem, Rat.div_def, Rat.mul_assoc]
    case assign | xor | power | not => exact absurd hb (by decide)
    case eq | neq | lt | leq | gt | geq | and | or | plus | minus => exact absurd hl (by decide)
  case and =>
    cases o'
    case and => simp only [Op.sem, b2r_ne_zero, Bool.decide_eq_true, Bool.and_assoc]
    case assign | xor | power | not => exact absurd hb (by decide)
    case eq | neq | lt | leq | gt | geq | or | plus | minus | times | divide | quot => exact absurd hl (by decide)
  case or =>
    cases o'
    case or => simp only [Op.sem, b2r_ne_zero, Bool.decide_eq_true, Bool.or_assoc]
    case assign | xor | power | not => exact absurd hb (by decide)
    case eq | neq | lt | leq | gt | geq | and | plus | minus | times | divide | quot => exact absurd hl (by decide)
  case assign | eq | neq | lt | leq | gt | geq | xor | minus | divide | quot | power | not => exact absurd ho (by decide)

theorem sem_neg {o' : Op} (hb : o'.isBin = true) (hl : o'.lvl = 6) (a b : Rat) : o'.sem (-a) b = -(o'.sem a b) := by
  cases o'
  case times => exact Rat.neg_mul ..
  case divide | quot => simp only [Op.sem, Rat.div_def, Rat.neg_mul]
  case assign | xor | power | not => exact absurd hb (by decide)
  case eq | neq | lt | leq | gt | geq | and | or | plus | minus => exact absurd hl (by decide)

/-- `L o` goes down the left spine of a chain `R` of level `m`: what may be put in front of every operand of level
    `m + 1`, changing the value by `f`, may be put in front of `R` if `f` commutes with the operators of level `m` in
    their left argument.  By `hm` no rule for conditionals (0), prefix operators (7) or primaries (8) makes `R`. -/
theorem derives_spine {m : Nat} {L : List Tok} {o : Op} {f : Rat → Rat} (hm : 1 ≤ m ∧ m ≤ 6)
    (base : ∀ {R v}, Derives st I (m + 1) R v → R.head? ≠ some (.op o) → Derives st I m (L ++ .op o :: R) (f v))
    (step : ∀ {o' : Op}, o'.isBin = true → o'.lvl = m → ∀ a b, o'.sem (f a) b = f (o'.sem a b)) :
    ∀ {n R b}, Derives st I n R b → n = m → R.head? ≠ some (.op o) → Derives st I m (L ++ .op o :: R) (f b) := by
  intro n R b hR
  induction hR with
  | up h1 _ _ =>
    intro hn hh
    subst hn
    exact base h1 hh
  | @bin o' l r a' b' hb' hl' hr' hh' ihl _ =>
    intro hn hh
    rw [head_append_of_ne_nil (derives_ne_nil hl')] at hh
    have h2 := Derives.bin hb' (hn ▸ ihl hn hh) hr' hh'
    rw [step hb' hn, hn] at h2
    simpa [List.append_assoc] using h2
  | condC | condPy =>
    intro hn
    omega
  | _ =>
    intro hn
    simp only [topLvl, unLvl] at hn
    omega

/-- in the grammar, `L o R` with `R` of the same level as an associative `o` has the value `a o b` -/
theorem derives_assoc {o : Op} (ho : o.assoc = true) {L a} (hL : Derives st I o.lvl L a) :
    ∀ {n R b}, Derives st I n R b → n = o.lvl → R.head? ≠ some (.op o) →
      Derives st I o.lvl (L ++ .op o :: R) (o.sem a b) := by
  have ⟨hbin, hm⟩ : o.isBin = true ∧ 1 ≤ o.lvl ∧ o.lvl ≤ 6 := by
    rcases Op.assoc_cases ho with rfl | rfl | rfl | rfl <;> decide
  intro n R b
  exact derives_spine (f := o.sem a) (hm := hm) (base := Derives.bin hbin hL)
    (step := fun hb hl a' b' => sem_assoc ho hb hl a a' b')

/-- in the grammar, `-R` with `R` a product or quotient has the value `-(b)` (`-a*b` is `(-a)*b`) -/
theorem derives_neg : ∀ {n R b}, Derives st I n R b → n = 6 → R.head? ≠ some (.op .minus) →
    Derives st I 6 (.op .minus :: R) (-b) :=
  derives_spine (L := []) (f := Neg.neg) (by decide)
    (fun h1 hh => Derives.up (Derives.un (Or.inl rfl) h1 hh) (by decide)) (fun hb hl a b => sem_neg hb hl a b)

theorem toks_ne_nil (d : Doc) : toks st d ≠ [] := by
  fun_cases toks st d <;> simp

theorem head_toks (o : Op) (d : Doc) : ((toks st d).head? = some (.op o)) ↔ heads st o d = true := by
  -- the branches of `heads`: 1 atom, 2 bin, 3 pre, 4 call1, 5 call2, 6 Python conditional, 7 other conditional, 8 paren
  fun_induction heads st o d with
  | case1 lead s =>
    cases lead
    · simp [toks]
    · simp only [toks, ↓reduceIte, List.head?_cons, Option.some.injEq, Tok.op.injEq, Bool.true_and, decide_eq_true_eq]
      exact eq_comm
  | case2 o' l r ih =>
    simp only [toks]
    rw [head_append_of_ne_nil (toks_ne_nil l)]
    exact ih
  | case6 c a b hpy ih =>
    simp only [toks, if_pos hpy]
    rw [List.append_assoc, head_append_of_ne_nil (toks_ne_nil (st := st) a)]
    exact ih
  | case7 c a b hnpy => simp [toks, hnpy]
  | case3 | case4 | case5 | case8 => simp [toks]

theorem head_toks_ne {o : Op} {d : Doc} (h : heads st o d = false) : (toks st d).head? ≠ some (.op o) := by
  intro hh
  rw [head_toks] at hh
  rw [h] at hh
  cases hh

theorem lvl_le_top (d : Doc) : lvl d ≤ topLvl := by
  -- only the level of a binary operator is no literal
  fun_cases lvl d with
  | case3 o l r => exact Nat.le_trans o.lvl_le (by decide)
  | _ => decide

theorem printer (d : Doc) : ok st d = true → Derives st I (lvl d) (toks st d) (evalDoc I d) := by
  induction d with
  | atom lead s =>
    intro _
    cases lead
    · exact Derives.atom s
    · simp only [toks, lvl, evalDoc, if_true]
      have h0 : Derives st I unLvl [.atom (s.drop 1).toString] (I.atom (s.drop 1).toString) :=
        derives_down (Derives.atom _) _ (by simp [unLvl, topLvl])
      exact Derives.un (Or.inl rfl) h0 (by simp)
  | bin o l r ihl ihr =>
    intro h
    simp only [ok, Bool.and_eq_true, decide_eq_true_eq, Bool.not_eq_true'] at h
    obtain ⟨⟨⟨⟨⟨hb, hl⟩, hr⟩, hll⟩, hrl⟩, hh⟩ := h
    have dl := derives_down (ihl hl) _ hll
    have hhd := head_toks_ne (st := st) hh
    by_cases ha : o.assoc = true
    · have dr := derives_down (ihr hr) o.lvl (by simpa [reqR, ha] using hrl)
      exact derives_assoc ha dl dr rfl hhd
    · have dr := derives_down (ihr hr) (o.lvl + 1) (by simpa [reqR, ha] using hrl)
      exact Derives.bin hb dl dr hhd
  | pre o x ih =>
    intro h
    simp only [ok, Bool.or_eq_true, Bool.and_eq_true, decide_eq_true_eq, Bool.not_eq_true'] at h
    rcases h with ⟨⟨⟨ho, hx⟩, hl⟩, hh⟩ | ⟨⟨⟨ho, hx⟩, hl⟩, hh⟩
    · subst ho
      simp only [toks, lvl, evalDoc]
      have hhd := head_toks_ne (st := st) hh
      split
      next h7 => exact Derives.un (Or.inl rfl) (derives_down (ih hx) _ h7) hhd
      next hn7 =>
        have h6 : lvl x = 6 := Nat.le_antisymm (Nat.le_of_lt_succ (Nat.lt_of_not_le hn7)) hl
        have := derives_neg (h6 ▸ ih hx) rfl hhd
        simpa [preSem] using this
    · subst ho
      exact Derives.un (Or.inr rfl) (derives_down (ih hx) _ hl) (head_toks_ne hh)
  | call1 f a ih =>
    intro h
    exact Derives.call1 (derives_down (ih h) 0 (Nat.zero_le _))
  | call2 f a b iha ihb =>
    intro h
    simp only [ok, Bool.and_eq_true] at h
    exact Derives.call2 (derives_down (iha h.1) 0 (Nat.zero_le _)) (derives_down (ihb h.2) 0 (Nat.zero_le _))
  | cond c a b ihc iha ihb =>
    intro h
    simp only [ok, Bool.and_eq_true, Bool.or_eq_true, decide_eq_true_eq] at h
    obtain ⟨⟨⟨hc, ha⟩, hb⟩, hs⟩ := h
    simp only [toks, lvl, evalDoc]
    rcases hs with hs | ⟨⟨hs, hla⟩, hlc⟩
    · have : ¬ st = CondStyle.py := by rw [hs]; decide
      simp only [this, if_false]
      exact Derives.condC hs (derives_down (ihc hc) 0 (Nat.zero_le _)) (derives_down (iha ha) 0 (Nat.zero_le _))
        (derives_down (ihb hb) 0 (Nat.zero_le _))
    · subst hs
      exact Derives.condPy rfl (derives_down (iha ha) 1 hla) (derives_down (ihc hc) 1 hlc)
        (derives_down (ihb hb) 0 (Nat.zero_le _))
  | paren d ih =>
    intro h
    exact Derives.paren (derives_down (ih h) 0 (Nat.zero_le _))

end Cellml.Gen
