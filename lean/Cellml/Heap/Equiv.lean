/-
  C09 — equivalence lists: symmetry and absence of duplicates under the equivalence operations.
-/
import Cellml.Heap.Replace
namespace Cellml.Heap
variable {kindOf : Nat → CK}

def EqNodup (h : Heap) : Prop := ∀ x, (h.equiv x).Nodup

theorem EqNodup.of_equiv {h h' : Heap} (hnd : EqNodup h) (he : h'.equiv = h.equiv) : EqNodup h' :=
  fun x => he ▸ hnd x

variable {e : Nat → List Nat} {v w a b : Nat}

theorem nodup_upd (hnd : ∀ x, (e x).Nodup) (v : Nat) {l : List Nat} (hl : l.Nodup) (x : Nat) :
    (upd e v l x).Nodup := by
  unfold upd
  split
  · exact hl
  · exact hnd x

theorem mem_upd_append : b ∈ upd e v (e v ++ [w]) a ↔ b ∈ e a ∨ (a = v ∧ b = w) := by
  unfold upd
  split
  next hav => simp [hav]
  next hav => simp [hav]

def unlink (e : Nat → List Nat) (v w : Nat) : Nat → List Nat := upd e v ((e v).erase w)

theorem nodup_unlink (hnd : ∀ x, (e x).Nodup) (x : Nat) : (unlink e v w x).Nodup :=
  nodup_upd hnd v ((hnd v).erase w) x

theorem mem_unlink (hnd : (e v).Nodup) : b ∈ unlink e v w a ↔ b ∈ e a ∧ ¬ (a = v ∧ b = w) := by
  unfold unlink upd
  split
  next hav => simp [hav, hnd.mem_erase_iff, and_comm]
  next hav => simp [hav]

/-- Each operation on equivalences enters or strikes a symmetric set of pairs: membership afterwards is one function
    `f` of membership before and of `K` — `Or` with `K` the pairs entered, `And` with `K` "not one of the pairs struck". -/
theorem symm_of_mem {e' : Nat → List Nat} (hs : ∀ a b, b ∈ e a → a ∈ e b) (K : Nat → Nat → Prop)
    (hK : ∀ a b, K a b → K b a) (f : Prop → Prop → Prop) (hm : ∀ a b, b ∈ e' a ↔ f (b ∈ e a) (K a b)) :
    ∀ a b, b ∈ e' a → a ∈ e' b := by
  intro a b hab
  rw [hm] at hab ⊢
  rwa [propext ⟨hs b a, hs a b⟩, propext ⟨hK b a, hK a b⟩]

theorem addEquivalence_inv (h : Heap) (v w : Nat) (hi : Inv kindOf h) (hnd : EqNodup h) :
    Inv kindOf (addEquivalence h v w).1 ∧ EqNodup (addEquivalence h v w).1 := by
  unfold addEquivalence
  by_cases hvw : v = w
  · rw [if_pos hvw]
    exact ⟨hi, hnd⟩
  rw [if_neg hvw]
  -- the guard of the one-sided branch, `w ∈ h.equiv v` but `v ∉ h.equiv w`, contradicts `hi.symm`: it is never taken
  by_cases hw : w ∈ h.equiv v
  · have hv : v ∈ h.equiv w := hi.symm v w hw
    simp only [List.contains_eq_mem, hw, hv, decide_true, Bool.not_true, Bool.and_self, Bool.false_eq_true, ↓reduceIte,
      Bool.not_false, Bool.and_false]
    exact ⟨hi, hnd⟩
  · have hv : v ∉ h.equiv w := fun hv => hw (hi.symm w v hv)
    simp only [List.contains_eq_mem, hw, hv, decide_false, Bool.not_false, Bool.and_self, ↓reduceIte]
    have hnd' := nodup_upd (nodup_upd hnd v (nodup_concat (hnd v) hw)) w (nodup_concat (hnd w) hv)
    have hsymm := symm_of_mem (e' := upd (upd h.equiv v (h.equiv v ++ [w])) w (h.equiv w ++ [v])) hi.symm
      (fun a b => (a = v ∧ b = w) ∨ (a = w ∧ b = v)) (fun a b hk => hk.symm.imp And.symm And.symm) Or
    refine ⟨hi.setEquiv (hsymm fun a b => ?_), hnd'⟩
    -- `h.equiv w` read backwards as the inner update at `w ≠ v`: `mem_upd_append` then fits both updates
    rw [← upd_other (f := h.equiv) (v := h.equiv v ++ [w]) (Ne.symm hvw), mem_upd_append, mem_upd_append, or_assoc]

theorem symm_unlink_unlink (hs : ∀ a b, b ∈ e a → a ∈ e b) (hnd : ∀ x, (e x).Nodup) :
    ∀ a b, b ∈ unlink (unlink e v w) w v a → a ∈ unlink (unlink e v w) w v b := by
  refine symm_of_mem hs (fun a b => ¬ (a = v ∧ b = w) ∧ ¬ (a = w ∧ b = v))
    (fun a b hk => ⟨fun he => hk.2 he.symm, fun he => hk.1 he.symm⟩) And fun a b => ?_
  rw [mem_unlink (nodup_unlink hnd w), mem_unlink (hnd v), and_assoc]

theorem removeEquivalence_inv (h : Heap) (v w : Nat) (hi : Inv kindOf h) (hnd : EqNodup h) :
    Inv kindOf (removeEquivalence h v w).1 ∧ EqNodup (removeEquivalence h v w).1 := by
  have key : Inv kindOf { h with equiv := unlink (unlink h.equiv v w) w v } ∧
      EqNodup { h with equiv := unlink (unlink h.equiv v w) w v } :=
    ⟨hi.setEquiv (symm_unlink_unlink hi.symm hnd), nodup_unlink (nodup_unlink hnd)⟩
  fun_cases removeEquivalence h v w
  next hw e1 hv => exact key
  next hw e1 hnv =>
    -- nothing to strike on the other side (`v = w`): the second erasure changes nothing
    have hv : v ∉ unlink h.equiv v w w := by simpa only [unlink, List.contains_eq_mem, decide_eq_true_eq] using hnv
    have hu : unlink (unlink h.equiv v w) w v = unlink h.equiv v w := by
      rw [unlink, List.erase_of_not_mem hv, upd_self]
    rw [hu] at key
    exact key
  next hnw => exact ⟨hi, hnd⟩

/-- what `release` does to the equivalence lists: the entries for `v` expire, and `v` lists nobody -/
def forget (e : Nat → List Nat) (v : Nat) : Nat → List Nat := fun x => if x = v then [] else (e x).erase v

theorem nodup_forget (hnd : ∀ x, (e x).Nodup) (v : Nat) : ∀ x, (forget e v x).Nodup := by
  intro x
  unfold forget
  split
  · exact List.nodup_nil
  · exact (hnd x).erase v

theorem mem_forget (hnd : (e a).Nodup) :
    b ∈ forget e v a ↔ b ∈ e a ∧ a ≠ v ∧ b ≠ v := by
  unfold forget
  split
  next hav => simp [hav]
  next hav => simp [hav, hnd.mem_erase_iff, and_comm]

theorem symm_forget (hs : ∀ a b, b ∈ e a → a ∈ e b) (hnd : ∀ x, (e x).Nodup) (v : Nat) :
    ∀ a b, b ∈ forget e v a → a ∈ forget e v b :=
  symm_of_mem hs (fun a b => a ≠ v ∧ b ≠ v) (fun _ _ hk => hk.symm) And fun a _ => mem_forget (hnd a)

/-- between symmetric lists the guard of `removeAllEquivalences` is idle: where `v` is not listed there is nothing to erase -/
theorem removeAllEquivalences_eq (h : Heap) (v : Nat) (hs : ∀ a b, b ∈ h.equiv a → a ∈ h.equiv b) :
    removeAllEquivalences h v = { h with equiv := forget h.equiv v } := by
  unfold removeAllEquivalences
  congr 1
  funext x
  unfold forget
  split
  · rfl
  · split
    · rfl
    next hx => exact (List.erase_of_not_mem fun hv => hx (hs x v hv)).symm

theorem removeAllEquivalences_inv (h : Heap) (v : Nat) (hi : Inv kindOf h) (hnd : EqNodup h) :
    Inv kindOf (removeAllEquivalences h v) ∧ EqNodup (removeAllEquivalences h v) := by
  rw [removeAllEquivalences_eq h v hi.symm]
  exact ⟨hi.setEquiv (symm_forget hi.symm hnd v), nodup_forget hnd v⟩

theorem release_inv (h : Heap) (v : Nat) (hi : Inv kindOf h) (hnd : EqNodup h) : Inv kindOf (release h v).1 := by
  fun_cases release h v
  next hnone => exact hi.setEquiv (symm_forget hi.symm hnd v)
  next howned => exact hi

theorem eqNodup_release (h : Heap) (v : Nat) (hnd : EqNodup h) : EqNodup (release h v).1 := by
  fun_cases release h v
  next hnone => exact nodup_forget hnd v
  next howned => exact hnd

/-- after a release nobody lists the dead variable any more, and the fresh variable under its identifier lists nobody -/
theorem release_forgets (h : Heap) (v : Nat) (hp : h.parent v = none) :
    (release h v).2 = true ∧ (release h v).1.equiv v = [] ∧ ∀ x, (h.equiv x).Nodup → v ∉ (release h v).1.equiv x := by
  fun_cases release h v
  next hnone => exact ⟨rfl, if_pos rfl, fun x hx hm => ((mem_forget hx).mp hm).2.2 rfl⟩
  next howned => exact absurd hp howned

end Cellml.Heap
