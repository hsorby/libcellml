/-
  C09 — the hierarchy (parent pointers) stays acyclic.
-/
import Cellml.Heap.Proofs
namespace Cellml.Heap

/-- `a` is a proper ancestor of `z` along parent pointers -/
inductive Anc (h : Heap) : Nat → Nat → Prop
  | direct {a z} : h.parent z = some a → Anc h a z
  | step {a p z} : h.parent z = some p → Anc h a p → Anc h a z

def Acyclic (h : Heap) : Prop := ∀ z, ¬ Anc h z z

variable {h h' : Heap} {a b c x z : Nat}

theorem Anc.trans (h1 : Anc h a b) (h2 : Anc h b c) : Anc h a c := by
  induction h2 with
  | direct hp => exact Anc.step hp h1
  | step hp _ ih => exact Anc.step hp ih

theorem Anc.parent (ha : Anc h a z) : ∃ p, h.parent z = some p ∧ (p = a ∨ Anc h a p) := by
  cases ha with
  | direct hp => exact ⟨a, hp, .inl rfl⟩
  | step hp ha => exact ⟨_, hp, .inr ha⟩

theorem Anc.child (ha : Anc h a z) : ∃ y, h.parent y = some a := by
  induction ha with
  | direct hp => exact ⟨_, hp⟩
  | step _ _ ih => exact ih

/-- the executable ancestor test is sound: `some false` means "not an ancestor" -/
theorem hasAncestor_false {fuel this e : Nat} (hf : hasAncestor h fuel this e = some false) : ¬ Anc h e this := by
  intro hanc
  fun_induction hasAncestor h fuel this e
  next => cases hf
  next hroot =>
    obtain ⟨p, hp', _⟩ := hanc.parent
    cases hroot.symm.trans hp'
  next hparent => cases hf
  next p hp hne ih =>
    obtain ⟨q, hq, hqe⟩ := hanc.parent
    obtain rfl : p = q := Option.some.inj (hp.symm.trans hq)
    rcases hqe with hqe | hqe
    · exact hne hqe
    · exact ih hf hqe

/-! The ancestor relation only reads parent pointers, and the mutators change them in two ways: an edge disappears
    (`upd … none`), the edge `x → c` appears (`upd … x (some c)`). -/

theorem upd_none_edge {f : Nat → Option Nat} {y z p : Nat} (hp : upd f y none z = some p) : f z = some p := by
  unfold upd at hp
  split at hp
  · cases hp
  · exact hp

theorem upd_some_edge {f : Nat → Option Nat} {x c z p : Nat} (hp : upd f x (some c) z = some p) :
    f z = some p ∨ (z = x ∧ p = c) := by
  unfold upd at hp
  split at hp
  next hz => exact .inr ⟨hz, (Option.some.inj hp).symm⟩
  next => exact .inl hp

theorem Anc.mono (he : ∀ z p, h'.parent z = some p → h.parent z = some p) (ha : Anc h' a z) : Anc h a z := by
  induction ha with
  | direct hp => exact .direct (he _ _ hp)
  | step hp _ ih => exact .step (he _ _ hp) ih

/-- With the additional edge `x → c`, an ancestor relation is an old one, or leads up to `x` by old edges and from `c`
    on by old edges (whatever happens in between). -/
theorem Anc.through (he : ∀ z p, h'.parent z = some p → h.parent z = some p ∨ (z = x ∧ p = c)) (ha : Anc h' a z) :
    Anc h a z ∨ ((a = c ∨ Anc h a c) ∧ (z = x ∨ Anc h x z)) := by
  induction ha with
  | @direct z hp =>
    rcases he z a hp with hp | ⟨hz, ha⟩
    · exact .inl (.direct hp)
    · exact .inr ⟨.inl ha, .inl hz⟩
  | @step p z hp _ ih =>
    rcases he z p hp with hp | ⟨hz, hp⟩
    · rcases ih with ih | ⟨ih1, ih2 | ih2⟩
      · exact .inl (.step hp ih)
      · exact .inr ⟨ih1, .inr (.direct (ih2 ▸ hp))⟩
      · exact .inr ⟨ih1, .inr (.step hp ih2)⟩
    · subst hp
      rcases ih with ih | ⟨ih1, _⟩
      · exact .inr ⟨.inr ih, .inl hz⟩
      · exact .inr ⟨ih1, .inl hz⟩

theorem Acyclic.redirect (ha : Acyclic h) (hx : ¬ Anc h x c) (hne : c ≠ x)
    (he : ∀ z p, h'.parent z = some p → h.parent z = some p ∨ (z = x ∧ p = c)) : Acyclic h' := by
  intro z hz
  -- a cycle through the new edge would make `x` equal to `c` or an ancestor of `c`
  rcases hz.through he with h1 | ⟨h1 | h1, h2 | h2⟩
  · exact ha z h1
  · exact hne (h1.symm.trans h2)
  · exact hx (h1 ▸ h2)
  · exact hx (h2 ▸ h1)
  · exact hx (h2.trans h1)

theorem detach_anc {k : CK} {y : Nat} (ha : Anc (detach h c k y) a z) : Anc h a z :=
  ha.mono fun _ _ => upd_none_edge

theorem Detached.anc (hd : Detached h h') (ha : Anc h' a z) : Anc h a z := by
  cases hd with
  | same => exact ha
  | child => exact detach_anc ha

theorem attach_acyclic (h : Heap) (c : Nat) (k : CK) (x : Nat) (ha : Acyclic h) (hx : ¬ Anc h x c) (hne : c ≠ x) :
    Acyclic (attach h c k x) :=
  ha.redirect hx hne fun _ _ => upd_some_edge

theorem addChild_acyclic_of {look : Look} {k : CK} (ha : Acyclic h) (hne : c ≠ x) (hx : ¬ Anc h x c) :
    Acyclic (addChild look h c k x).1 := by
  rw [addChild_eq]
  have hd := stay_or_leave_detached look h c k x
  exact attach_acyclic _ c k x (fun z hz => ha z (hd.anc hz)) (fun hz => hx (hd.anc hz)) hne

end Cellml.Heap
