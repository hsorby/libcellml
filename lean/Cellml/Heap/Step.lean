/-
  C09 — the step theorem and its lift to histories.
-/
import Cellml.Heap.Equiv
namespace Cellml.Heap
variable {kindOf : Nat → CK}

theorem addChild_step {look : Look} {h : Heap} {c : Nat} {k : CK} {x : Nat} (hi : Inv kindOf h) (hnd : EqNodup h)
    (hk : kindOf x = k) (hnot : h.parent x ≠ some c) :
    Inv kindOf (addChild look h c k x).1 ∧ EqNodup (addChild look h c k x).1 :=
  ⟨addChild_inv look h c k x hi hk hnot, hnd.of_equiv (addChild_equiv look h c k x)⟩

/-- C09 step theorem: every valid operation preserves the ownership invariant -/
theorem step_inv (look : Look) (nameOf : Nat → String) (fuel : Nat) (h : Heap) (op : Op)
    (hi : Inv kindOf h) (hnd : EqNodup h) (hv : Valid kindOf h op) :
    Inv kindOf (step look nameOf fuel h op).1 ∧ EqNodup (step look nameOf fuel h op).1 := by
  have pair {h' : Heap} (hi' : Inv kindOf h') (he : h'.equiv = h.equiv) : Inv kindOf h' ∧ EqNodup h' :=
    ⟨hi', hnd.of_equiv he⟩
  have det {h' : Heap} (hd : Detached h h') : Inv kindOf h' ∧ EqNodup h' := pair (hd.inv hi) hd.equiv
  cases op with
  | addComponent c x =>
    exact pair (addComponent_inv look fuel h c x hi hv.1 hv.2) (addComponent_equiv look fuel h c x)
  | addToModel m x | addVariable c x | addReset c x | addUnits m x => exact addChild_step hi hnd hv.1 hv.2
  | removeIdx c k i => exact det (removeIdx_detached h c k i)
  | removePtr c k x => exact det (removePtr_detached look h c k x)
  | removeName c k n => exact det (removeName_detached nameOf h c k n)
  | removeAll c k => exact ⟨removeAll_inv hi, hnd⟩
  | addEquivalence v w => exact addEquivalence_inv h v w hi hnd
  | removeEquivalence v w => exact removeEquivalence_inv h v w hi hnd
  | removeAllEquivalences v => exact removeAllEquivalences_inv h v hi hnd
  | release v => exact ⟨release_inv h v hi hnd, eqNodup_release h v hnd⟩
  | replaceComponent c i x =>
    exact pair (replaceComponent_inv look fuel h c i x hi hv) (replaceComponent_equiv look fuel h c i x)
  | replaceUnits m i x => exact pair (replaceUnits_inv look h m i x hi hv) (replaceUnits_equiv look h m i x)

/-- C09: the invariant holds after every history of valid operations -/
theorem run_inv (look : Look) (nameOf : Nat → String) (fuel : Nat) (ops : List Op) :
    ∀ h, Inv kindOf h → EqNodup h → AllValid kindOf look nameOf fuel h ops →
      Inv kindOf (run look nameOf fuel h ops) ∧ EqNodup (run look nameOf fuel h ops) := by
  induction ops with
  | nil => intro h hi hnd _; exact ⟨hi, hnd⟩
  | cons op ops ih =>
    intro h hi hnd hv
    obtain ⟨h1, h2⟩ := step_inv look nameOf fuel h op hi hnd hv.1
    exact ih _ h1 h2 hv.2

theorem empty_inv : Inv kindOf empty ∧ EqNodup empty := by
  refine ⟨⟨?listed, ?nodup, ?typed, ?symm⟩, ?eqNodup⟩
  case nodup => exact fun _ _ => List.nodup_nil
  case eqNodup => exact fun _ => List.nodup_nil
  all_goals
    intros
    rename_i hx
    cases hx

end Cellml.Heap
