/-
  C09 — `replaceComponent(index, component)` / `replaceUnits(index, units)` keep the ownership invariant: the replacement
  leaves its previous parent first (lookup by pointer there), the child to replace is located again when that changed
  the list, and the replaced child loses its parent pointer.
-/
import Cellml.Heap.Acyclic
namespace Cellml.Heap

variable {kindOf : Nat → CK}

theorem mem_set_self (l : List Nat) (x : Nat) : ∀ j, j < l.length → x ∈ l.set j x := by
  intro j hj
  exact List.mem_set hj x

/-- the general step: in a heap with the invariant, an object listed nowhere takes the place of the child at `j` -/
theorem replaceAt_inv (h1 : Heap) (c : Nat) (k : CK) (x old j : Nat) (hi : Inv kindOf h1) (hk : kindOf x = k)
    (hun : ∀ c' k', x ∉ h1.kids c' k') (hj : (h1.kids c k)[j]? = some old) :
    Inv kindOf { h1 with parent := upd (upd h1.parent old none) x (some c),
                         kids := updK h1.kids c k ((h1.kids c k).set j x) } := by
  have hp := set_perm hj x
  have hx : x ∉ (h1.kids c k).erase old := fun hm => hun c k (List.mem_of_mem_erase hm)
  refine hi.setList (hp.nodup_iff.mpr (List.nodup_cons.mpr ⟨hx, (hi.nodup c k).erase old⟩)) (fun z hz => ?_)
    (fun c' k' z hz hck => ?_)
  · rcases List.mem_cons.mp (hp.mem_iff.mp hz) with hz | hz
    · rw [hz]
      exact ⟨upd_same, hk⟩
    · obtain ⟨hzo, hm⟩ := (hi.nodup c k).mem_erase_iff.mp hz
      have hzx : z ≠ x := fun he => hun c k (he ▸ hm)
      exact ⟨(upd_other hzx).trans ((upd_other hzo).trans (hi.listed c k z hm)), hi.typed c k z hm⟩
  · have hzx : z ≠ x := fun he => hun c' k' (he ▸ hz)
    have hzo : z ≠ old := fun he => hck (hi.one_container (he ▸ hz) (List.mem_of_getElem? hj))
    exact (upd_other hzx).trans (upd_other hzo)

/-- the replacement leaves its previous parent: afterwards it is listed nowhere -/
theorem leave_unlisted (look : Look) (h : Heap) (k : CK) (x : Nat) (hi : Inv kindOf h) (hk : kindOf x = k) :
    let h1 := match h.parent x with
      | some p => (removePtr look h p k x).1
      | none => h
    Inv kindOf h1 ∧ ∀ c' k', x ∉ h1.kids c' k' :=
  ⟨(leave_detached look h k x).inv hi, leave_not_mem hi hk⟩

/-- what the last lines of both replacements make of `h1`, the heap in which `x` has left its previous parent; `lost`:
    the child to replace is not found again (`j` out of range), so `x` stays detached and nothing is replaced -/
inductive Replaces (h1 : Heap) (c : Nat) (k : CK) (x : Nat) : Heap → Prop
  | done {old j : Nat} : (h1.kids c k)[j]? = some old →
      Replaces h1 c k x { h1 with parent := upd (upd h1.parent old none) x (some c),
                                  kids := updK h1.kids c k ((h1.kids c k).set j x) }
  | lost : Replaces h1 c k x h1

/-- where the child to replace is looked for: by `idxOf` if the list may have changed (`P`), else at the old index -/
theorem relocated {l l1 : List Nat} {i old : Nat} (P : Prop) [Decidable P] (hg : l[i]? = some old) (hl : ¬ P → l1 = l)
    (hlt : (if P then l1.idxOf old else i) < l1.length) : l1[if P then l1.idxOf old else i]? = some old := by
  by_cases hp : P
  · rw [if_pos hp] at hlt ⊢
    exact getElem?_idxOf_of_lt _ old hlt
  · rw [if_neg hp, hl hp]
    exact hg

/- In both shape lemmas `h1` is `leave look h k x` by unfolding. -/

theorem replaceUnits_shape (look : Look) (h : Heap) (m i x : Nat) :
    (replaceUnits look h m i x).1 = h ∨ Replaces (leave look h .units x) m .units x (replaceUnits look h m i x).1 := by
  fun_cases replaceUnits look h m i x
  next hnone => exact .inl rfl
  next hsame => exact .inl rfl
  next old hg hxo h1 j hlt l =>
    have hl : ¬ (h.parent x).isSome → h1.kids m .units = h.kids m .units := by
      intro hp
      exact leave_kids_other fun he => hp (he ▸ rfl)
    exact .inr (.done (relocated _ hg hl hlt))
  next old hg hxo h1 j hnlt => exact .inr .lost

theorem replaceComponent_shape (look : Look) (fuel : Nat) (h : Heap) (c i x : Nat) :
    (replaceComponent look fuel h c i x).1 = h ∨
      (c ≠ x ∧ hasAncestor h fuel c x = some false ∧
        Replaces (leave look h .comp x) c .comp x (replaceComponent look fuel h c i x).1) := by
  fun_cases replaceComponent look fuel h c i x
  next hnone => exact .inl rfl
  next hsame => exact .inl rfl
  next old hg hxo hself => exact .inl rfl
  next old hg hxo hxc hf h1 j hlt l =>
    have hl : ¬ h.parent x = some c → h1.kids c .comp = h.kids c .comp := leave_kids_other
    exact .inr ⟨fun he => hxc he.symm, hf, .done (relocated _ hg hl hlt)⟩
  next old hg hxo hxc hf h1 j hnlt => exact .inr ⟨fun he => hxc he.symm, hf, .lost⟩
  next old hg hxo hxc hancestor => exact .inl rfl

theorem Replaces.inv {look : Look} {h h' : Heap} {c : Nat} {k : CK} {x : Nat}
    (hr : Replaces (leave look h k x) c k x h') (hi : Inv kindOf h) (hk : kindOf x = k) : Inv kindOf h' := by
  have ⟨hi1, hun⟩ : Inv kindOf (leave look h k x) ∧ ∀ c' k', x ∉ (leave look h k x).kids c' k' :=
    leave_unlisted look h k x hi hk
  cases hr with
  | done hj => exact replaceAt_inv _ c k x _ _ hi1 hk hun hj
  | lost => exact hi1

theorem Replaces.equiv {look : Look} {h h' : Heap} {c : Nat} {k : CK} {x : Nat}
    (hr : Replaces (leave look h k x) c k x h') : h'.equiv = h.equiv := by
  cases hr <;> exact (leave_detached look h k x).equiv

theorem Replaces.acyclic {look : Look} {h h' : Heap} {c : Nat} {k : CK} {x : Nat}
    (hr : Replaces (leave look h k x) c k x h') (ha : Acyclic h) (hx : ¬ Anc h x c) (hne : c ≠ x) : Acyclic h' := by
  have hd := leave_detached look h k x
  have ha1 : Acyclic (leave look h k x) := fun z hz => ha z (hd.anc hz)
  cases hr with
  | done => exact ha1.redirect (fun hz => hx (hd.anc hz)) hne fun z p hp => (upd_some_edge hp).imp_left upd_none_edge
  | lost => exact ha1

theorem replaceUnits_inv (look : Look) (h : Heap) (m i x : Nat) (hi : Inv kindOf h) (hk : kindOf x = .units) :
    Inv kindOf (replaceUnits look h m i x).1 := by
  rcases replaceUnits_shape look h m i x with e | hr
  · rw [e]
    exact hi
  · exact hr.inv hi hk

theorem replaceComponent_inv (look : Look) (fuel : Nat) (h : Heap) (c i x : Nat) (hi : Inv kindOf h) (hk : kindOf x = .comp) :
    Inv kindOf (replaceComponent look fuel h c i x).1 := by
  rcases replaceComponent_shape look fuel h c i x with e | ⟨_, _, hr⟩
  · rw [e]
    exact hi
  · exact hr.inv hi hk

theorem replaceUnits_equiv (look : Look) (h : Heap) (m i x : Nat) : (replaceUnits look h m i x).1.equiv = h.equiv := by
  rcases replaceUnits_shape look h m i x with e | hr
  · rw [e]
  · exact hr.equiv

theorem replaceComponent_equiv (look : Look) (fuel : Nat) (h : Heap) (c i x : Nat) :
    (replaceComponent look fuel h c i x).1.equiv = h.equiv := by
  rcases replaceComponent_shape look fuel h c i x with e | ⟨_, _, hr⟩
  · rw [e]
  · exact hr.equiv

/-- `replaceComponent` keeps the component hierarchy acyclic: a component is never replaced by its own container or
    by one of the container's ancestors -/
theorem replaceComponent_acyclic (look : Look) (fuel : Nat) (h : Heap) (c i x : Nat) (ha : Acyclic h) :
    Acyclic (replaceComponent look fuel h c i x).1 := by
  rcases replaceComponent_shape look fuel h c i x with e | ⟨hcx, hf, hr⟩
  · rw [e]
    exact ha
  · exact hr.acyclic ha (hasAncestor_false hf) hcx

theorem replaceUnits_exact (look : Look) (h : Heap) (m i x old : Nat) (hg : (h.kids m .units)[i]? = some old)
    (hxo : x ≠ old) (hp : h.parent x = none) :
    (replaceUnits look h m i x).2 = true ∧
    (replaceUnits look h m i x).1.kids m .units = (h.kids m .units).set i x ∧
    (replaceUnits look h m i x).1.parent x = some m ∧ (replaceUnits look h m i x).1.parent old = none ∧
    (∀ z, z ≠ x → z ≠ old → (replaceUnits look h m i x).1.parent z = h.parent z) ∧
    (∀ c' k', ¬ (c' = m ∧ k' = .units) → (replaceUnits look h m i x).1.kids c' k' = h.kids c' k') := by
  obtain ⟨hlt, _⟩ := List.getElem?_eq_some_iff.mp hg
  have hox : old ≠ x := fun he => hxo he.symm
  unfold replaceUnits
  -- no parent, so `h1 = h` and `j = i`, and `i` is in range: the branch that replaces
  simp only [hg, hxo, if_false, hp, Option.isSome_none, Bool.false_eq_true, hlt, if_true]
  exact ⟨trivial, updK_same, upd_same, (upd_other hox).trans upd_same,
    fun z hzx hzo => (upd_other hzx).trans (upd_other hzo), fun c' k' hck => updK_other hck⟩

end Cellml.Heap
