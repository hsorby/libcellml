/-
  C09 — the ownership invariant under the container mutators of the model.

  The removals by pointer, index and name detach at most one child (`Detached`); `add…` lets the object `leave` a
  different previous parent and then `attach`es it (`addChild_eq`).  The invariant here, acyclicity (`Acyclic.lean`) and the frame
  of the equivalence lists are proved once per move.
-/
import Cellml.Heap.Model
import Cellml.Lists
namespace Cellml.Heap

/-- `kindOf` is the (fixed) kind of each object: component, variable, reset or units (a model is a container only) -/
structure Inv (kindOf : Nat → CK) (h : Heap) : Prop where
  /-- every entity listed by a container reports that container as its parent -/
  listed : ∀ c k x, x ∈ h.kids c k → h.parent x = some c
  /-- no entity is listed twice -/
  nodup : ∀ c k, (h.kids c k).Nodup
  /-- a list of children of one kind holds objects of that kind -/
  typed : ∀ c k x, x ∈ h.kids c k → kindOf x = k
  /-- variable equivalence is symmetric -/
  symm : ∀ v w, w ∈ h.equiv v → v ∈ h.equiv w

variable {kindOf : Nat → CK} {look : Look} {h h' : Heap} {c c' : Nat} {k k' : CK} {x y z : Nat}

theorem Inv.one_container (hi : Inv kindOf h) (h1 : x ∈ h.kids c k) (h2 : x ∈ h.kids c' k') : c = c' ∧ k = k' := by
  have a := hi.listed c k x h1
  have b := hi.listed c' k' x h2
  rw [a] at b
  exact ⟨Option.some.inj b, (hi.typed c k x h1).symm.trans (hi.typed c' k' x h2)⟩

theorem Inv.unlisted (hi : Inv kindOf h) (hp : h.parent x = none) (c : Nat) (k : CK) : x ∉ h.kids c k := by
  intro hx
  rw [hi.listed c k x hx] at hp
  cases hp

theorem upd_same {β : Type} {f : Nat → β} {a : Nat} {v : β} : upd f a v a = v := by simp [upd]

theorem upd_other {β : Type} {f : Nat → β} {a : Nat} {v : β} {b : Nat} (h : b ≠ a) : upd f a v b = f b := by simp [upd, h]

theorem upd_self {β : Type} (f : Nat → β) (a : Nat) : upd f a (f a) = f := by
  funext x
  unfold upd
  split
  next hx => rw [hx]
  next => rfl

theorem updK_same {f : Nat → CK → List Nat} {v : List Nat} : updK f c k v c k = v := by
  simp [updK]

theorem updK_other {f : Nat → CK → List Nat} {v : List Nat} (h : ¬ (c' = c ∧ k' = k)) : updK f c k v c' k' = f c' k' := by
  simp [updK, h]

theorem updK_cases {f : Nat → CK → List Nat} {v : List Nat} (P : List Nat → Nat → CK → Prop)
    (hv : P v c k) (hf : ∀ c' k', ¬ (c' = c ∧ k' = k) → P (f c' k') c' k') : ∀ c' k', P (updK f c k v c' k') c' k' := by
  intro c' k'
  unfold updK
  split
  next hck =>
    obtain ⟨rfl, rfl⟩ := hck
    exact hv
  next hck => exact hf c' k' hck

theorem detach_parent (h : Heap) (c : Nat) (k : CK) (y : Nat) : (detach h c k y).parent y = none :=
  upd_same

theorem detach_frame (hz : z ≠ y) : (detach h c k y).parent z = h.parent z :=
  upd_other hz

theorem detach_kids_same (h : Heap) (c : Nat) (k : CK) (y : Nat) : (detach h c k y).kids c k = (h.kids c k).erase y :=
  updK_same

theorem detach_kids_other (hck : ¬ (c' = c ∧ k' = k)) : (detach h c k y).kids c' k' = h.kids c' k' :=
  updK_other hck

/-- One list is replaced and parent pointers change.  Every container mutator is an instance, so the distinction
    "this list or another" is made here only. -/
theorem Inv.setList (hi : Inv kindOf h) {l : List Nat} {par : Nat → Option Nat}
    (hnd : l.Nodup) (hl : ∀ x, x ∈ l → par x = some c ∧ kindOf x = k)
    (hpar : ∀ c' k' x, x ∈ h.kids c' k' → ¬ (c' = c ∧ k' = k) → par x = h.parent x) :
    Inv kindOf { h with parent := par, kids := updK h.kids c k l } :=
  ⟨updK_cases (fun l c' _ => ∀ x, x ∈ l → par x = some c') (fun x hx => (hl x hx).1)
      (fun c' k' hck x hx => (hpar c' k' x hx hck).trans (hi.listed c' k' x hx)),
    updK_cases (fun l _ _ => l.Nodup) hnd (fun c' k' _ => hi.nodup c' k'),
    updK_cases (fun l _ k' => ∀ x, x ∈ l → kindOf x = k') (fun x hx => (hl x hx).2) (fun c' k' _ => hi.typed c' k'),
    hi.symm⟩

theorem Inv.setEquiv (hi : Inv kindOf h) {e : Nat → List Nat} (hs : ∀ a b, b ∈ e a → a ∈ e b) :
    Inv kindOf { h with equiv := e } :=
  ⟨hi.listed, hi.nodup, hi.typed, hs⟩

theorem attach_inv (hi : Inv kindOf h) (hk : kindOf x = k) (hun : ∀ c' k', x ∉ h.kids c' k') :
    Inv kindOf (attach h c k x) := by
  refine hi.setList (nodup_concat (hi.nodup c k) (hun c k)) (fun z hz => ?_) (fun c' k' z hz _ => upd_other ?_)
  · rcases List.mem_append.mp hz with hz | hz
    · have hne : z ≠ x := fun he => hun c k (he ▸ hz)
      exact ⟨(upd_other hne).trans (hi.listed c k z hz), hi.typed c k z hz⟩
    · rw [List.mem_singleton.mp hz]
      exact ⟨upd_same, hk⟩
  · rintro rfl
    exact hun c' k' hz

theorem removeAll_inv (hi : Inv kindOf h) : Inv kindOf (removeAll h c k) := by
  refine hi.setList List.nodup_nil (fun x hx => nomatch hx) (fun c' k' x hx hck => if_neg ?_)
  -- a child of another list is not among the children removed
  intro hm
  exact hck (hi.one_container hx hm)

theorem findPtr_mem (hf : findPtr look h c k x = some y) : y ∈ h.kids c k := by
  revert hf
  fun_cases findPtr look h c k x
  next hx => exact fun hf => Option.some.inj hf ▸ hx
  next hnx => exact List.mem_of_find?_eq_some

theorem findPtr_self (hx : x ∈ h.kids c k) : findPtr look h c k x = some x := by
  simp [findPtr, hx]

theorem removePtr_of_mem (hx : x ∈ h.kids c k) : removePtr look h c k x = (detach h c k x, true) := by
  simp [removePtr, findPtr_self hx]

inductive Detached (h : Heap) : Heap → Prop
  | same : Detached h h
  | child {c : Nat} {k : CK} {y : Nat} : y ∈ h.kids c k → Detached h (detach h c k y)

/-- the removals by pointer, index and name each look a child up in their own way and detach what they find -/
theorem detached_of_lookup {o : Option Nat} (ho : ∀ y, o = some y → y ∈ h.kids c k) :
    Detached h (match o with
      | some y => (detach h c k y, true)
      | none => (h, false)).1 := by
  cases o with
  | some y => exact .child (ho y rfl)
  | none => exact .same

theorem removePtr_detached (look : Look) (h : Heap) (c : Nat) (k : CK) (x : Nat) :
    Detached h (removePtr look h c k x).1 :=
  detached_of_lookup fun _ => findPtr_mem

theorem removeIdx_detached (h : Heap) (c : Nat) (k : CK) (i : Nat) : Detached h (removeIdx h c k i).1 :=
  detached_of_lookup fun _ => List.mem_of_getElem?

theorem removeName_detached (nameOf : Nat → String) (h : Heap) (c : Nat) (k : CK) (n : String) :
    Detached h (removeName nameOf h c k n).1 :=
  detached_of_lookup fun _ => List.mem_of_find?_eq_some

theorem removePtr_kids_other (look : Look) (h : Heap) (p : Nat) (k : CK) (x c : Nat) (k' : CK) (hne : ¬ (c = p ∧ k' = k)) :
    (removePtr look h p k x).1.kids c k' = h.kids c k' := by
  fun_cases removePtr look h p k x
  next y hfound => exact detach_kids_other hne
  next hnotfound => rfl

theorem Detached.inv (hd : Detached h h') (hi : Inv kindOf h) : Inv kindOf h' := by
  cases hd with
  | same => exact hi
  | @child c k y hy =>
    refine hi.setList ((hi.nodup c k).erase y) (fun x hx => ?_) (fun c' k' x hx hck => upd_other ?_)
    · obtain ⟨hne, hm⟩ := (hi.nodup c k).mem_erase_iff.mp hx
      exact ⟨(upd_other hne).trans (hi.listed c k x hm), hi.typed c k x hm⟩
    · rintro rfl
      exact hck (hi.one_container hx hy)

theorem Detached.equiv (hd : Detached h h') : h'.equiv = h.equiv := by
  cases hd <;> rfl

theorem Detached.mem_kids (hd : Detached h h') (hx : x ∈ h'.kids c k) : x ∈ h.kids c k := by
  cases hd with
  | same => exact hx
  | @child c₀ k₀ y _ =>
    by_cases hck : c = c₀ ∧ k = k₀
    · obtain ⟨rfl, rfl⟩ := hck
      rw [detach_kids_same] at hx
      exact List.mem_of_mem_erase hx
    · rwa [detach_kids_other hck] at hx

/-- what `add…` and `replace…` do first with the object they are given: a lookup by pointer in its previous parent -/
def leave (look : Look) (h : Heap) (k : CK) (x : Nat) : Heap :=
  match h.parent x with
  | some p => (removePtr look h p k x).1
  | none => h

theorem leave_detached (look : Look) (h : Heap) (k : CK) (x : Nat) : Detached h (leave look h k x) := by
  fun_cases leave look h k x
  next p hp => exact removePtr_detached look h p k x
  next hnone => exact .same

theorem leave_kids_other (hne : h.parent x ≠ some c) : (leave look h k x).kids c k' = h.kids c k' := by
  fun_cases leave look h k x
  next p hp => exact removePtr_kids_other look h p k x c k' fun he => hne (he.1 ▸ hp)
  next hnone => rfl

theorem leave_not_mem (hi : Inv kindOf h) (hk : kindOf x = k) (c' : Nat) (k' : CK) :
    x ∉ (leave look h k x).kids c' k' := by
  intro hx
  have hm := (leave_detached look h k x).mem_kids hx
  obtain rfl : k' = k := (hi.typed c' k' x hm).symm.trans hk
  -- `x` is a child of its parent, so the lookup by pointer there finds `x` itself
  have e : leave look h k' x = detach h c' k' x := by
    simp only [leave, hi.listed c' k' x hm, removePtr_of_mem hm]
  rw [e, detach_kids_same] at hx
  exact (hi.nodup c' k').not_mem_erase hx

theorem addChild_eq (look : Look) (h : Heap) (c : Nat) (k : CK) (x : Nat) :
    (addChild look h c k x).1 = attach (if h.parent x = some c then h else leave look h k x) c k x := by
  unfold addChild leave
  cases h.parent x with
  | none => rfl
  | some p => by_cases hpc : p = c <;> simp [hpc]

theorem stay_or_leave_detached (look : Look) (h : Heap) (c : Nat) (k : CK) (x : Nat) :
    Detached h (if h.parent x = some c then h else leave look h k x) := by
  split
  · exact .same
  · exact leave_detached look h k x

theorem addChild_equiv (look : Look) (h : Heap) (c : Nat) (k : CK) (x : Nat) : (addChild look h c k x).1.equiv = h.equiv := by
  rw [addChild_eq]
  exact (stay_or_leave_detached look h c k x).equiv

/-- `add…`: the claim excludes adding an entity to the container that already holds it (`h.parent x ≠ some c`;
    existing tests pin that it is then listed twice) -/
theorem addChild_inv (look : Look) (h : Heap) (c : Nat) (k : CK) (x : Nat) (hi : Inv kindOf h) (hk : kindOf x = k)
    (hnot : h.parent x ≠ some c) : Inv kindOf (addChild look h c k x).1 := by
  rw [addChild_eq, if_neg hnot]
  exact attach_inv ((leave_detached look h k x).inv hi) hk (leave_not_mem hi hk)

theorem addComponent_inv (look : Look) (fuel : Nat) (h : Heap) (c x : Nat) (hi : Inv kindOf h) (hk : kindOf x = .comp)
    (hnot : h.parent x ≠ some c) : Inv kindOf (addComponent look fuel h c x).1 := by
  fun_cases addComponent look fuel h c x
  next hself => exact hi
  next hcx hf => exact addChild_inv look h c .comp x hi hk hnot
  next hcx hnf => exact hi

theorem addComponent_equiv (look : Look) (fuel : Nat) (h : Heap) (c x : Nat) :
    (addComponent look fuel h c x).1.equiv = h.equiv := by
  fun_cases addComponent look fuel h c x
  next hself => rfl
  next hcx hf => exact addChild_equiv look h c .comp x
  next hcx hnf => rfl

end Cellml.Heap
