/-
  C05 — requalification of variable-based constants runs to a fixpoint: when `requalify` returns, no equation typed
  "variable-based constant" reads a class that is not some kind of constant — however long the chain of equations
  hanging off a non-constant (e.g. NLA-solved) variable is, and in whatever order they are listed.
-/
import Cellml.Analyser.Steps
namespace Cellml.Analyser

/-- the state is stable: no variable-based-constant equation reads something that is not some kind of constant -/
def Stable (s : St) : Prop := ∀ i, needs s i = false

theorem stable_reads_constants {s : St} (hs : Stable s) {i u : Nat} {e : E} (h : s.eqs[i]? = some e)
    (hv : e.ty = .varConstant) (hu : e.unknowns.head? = some u) :
    ∀ v ∈ e.all, v ≠ u → (s.v v).ty = .constant ∨ (s.v v).ty = .ctc ∨ (s.v v).ty = .cvc := by
  intro v hvm hne
  have ht : readsNonConstant s e u = false := by
    have := hs i
    unfold needs at this
    rw [h] at this
    dsimp only at this
    rwa [if_pos hv, hu] at this
  have := List.any_eq_false.mp ht v hvm
  simp only [Bool.and_eq_true, decide_eq_true_eq, not_and] at this
  by_cases h1 : (s.v v).ty = .constant
  · exact Or.inl h1
  · by_cases h2 : (s.v v).ty = .ctc
    · exact Or.inr (Or.inl h2)
    · exact Or.inr (Or.inr (Classical.not_not.mp (this ⟨⟨hne, h1⟩, h2⟩)))

/-- `acc.2 = false` is in the conclusion so that the induction needs no lemma that the flag is never lowered -/
theorem rqPass_unchanged (is : List Nat) : ∀ (acc : St × Bool), (is.foldl rqStep acc).2 = false →
    acc.2 = false ∧ is.foldl rqStep acc = acc ∧ ∀ i ∈ is, needs acc.1 i = false := by
  induction is with
  | nil => intro acc h; exact ⟨h, rfl, fun _ h => nomatch h⟩
  | cons i rest ih =>
    intro acc h
    rw [List.foldl_cons] at h ⊢
    obtain ⟨h0, h1, h2⟩ := ih _ h
    rcases rqStep_cases acc i with ⟨hn, he⟩ | ⟨_, _, _, _, he⟩ <;> rw [he] at h0 h1 h2 ⊢
    · exact ⟨h0, h1, fun j hj => (List.mem_cons.mp hj).elim (· ▸ hn) (h2 j)⟩
    · cases h0

theorem stable_of_pass {s s' : St} (h : requalifyPass s = (s', false)) : Stable s ∧ s' = s := by
  obtain ⟨_, h1, h2⟩ := rqPass_unchanged _ (s, false) (congrArg Prod.snd h)
  refine ⟨fun i => ?_, congrArg Prod.fst (h.symm.trans h1)⟩
  by_cases hi : i < s.eqs.length
  · exact h2 i (List.mem_range.mpr hi)
  · unfold needs; rw [List.getElem?_eq_none_iff.mpr (Nat.le_of_not_lt hi)]

/-- number of equations typed variable-based constant -/
def vcCount (s : St) : Nat := (s.eqs.map (·.ty)).count .varConstant

theorem vcCount_setV (s : St) (u : Nat) (f : V → V) : vcCount (s.setV u f) = vcCount s := rfl

/-- every requalification lowers the count by one, so a pass that reports a change has lowered it -/
theorem pass_count {s s' : St} {ch : Bool} (h : requalifyPass s = (s', ch)) :
    vcCount s' + (if ch then 1 else 0) ≤ vcCount s := by
  have : vcCount (requalifyPass s).1 + (if (requalifyPass s).2 then 1 else 0) ≤ vcCount s := List.foldlRecOn
    (motive := fun (a : St × Bool) => vcCount a.1 + (if a.2 then 1 else 0) ≤ vcCount s) _ _ (Nat.le_refl _)
    fun a ha i _ => by
      show vcCount (rqStep a i).1 + (if (rqStep a i).2 then 1 else 0) ≤ _
      rcases rqStep_cases a i with ⟨_, he⟩ | ⟨e, u, hi, hv, he⟩ <;> rw [he]
      · exact ha
      · have hc : vcCount ((a.1.setV u fun x => { x with ty := .algebraic }).setE i { e with ty := .algebraic }) + 1
            = vcCount a.1 := by
          have := count_ty_set .varConstant a.1.eqs i e { e with ty := .algebraic } hi
          rw [if_pos hv, if_neg (show ET.algebraic ≠ .varConstant by decide), Nat.add_zero] at this
          rw [← vcCount_setV a.1 u fun x => { x with ty := .algebraic }]
          exact this
        dsimp only
        rw [if_pos rfl]
        omega
  rwa [h] at this

theorem requalifyLoop_stable (fuel : Nat) (s : St) (h : vcCount s < fuel) : Stable (requalifyLoop fuel s) := by
  fun_induction requalifyLoop fuel s with
  | case1 => omega
  | case2 fuel s s' hp ih =>
    have hc := pass_count hp
    rw [if_pos rfl] at hc
    exact ih (by omega)
  | case3 fuel s s' ch hp hch =>
    cases Bool.eq_false_iff.mpr hch
    obtain ⟨hs, rfl⟩ := stable_of_pass hp
    exact hs

theorem requalify_stable (s : St) : Stable (requalify s) :=
  requalifyLoop_stable _ s (Nat.lt_succ_of_le (count_ty_le .varConstant s.eqs))

end Cellml.Analyser
