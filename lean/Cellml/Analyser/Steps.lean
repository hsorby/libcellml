/-
  C05 / C20 — what each step of the classification machine does.  A step either touches only the classes, and is then
  described by one `Retypes` statement, or it stores an equation (`check_cases`, `rqStep_cases`).  The rules of the
  loops (`sweep_rule`, `loopO_rule`, `loop_preserves`, `requalify_rule`) carry every invariant of the state alone.
-/
import Cellml.Analyser.Model
import Cellml.Lists
namespace Cellml.Analyser

theorem eqType_ne (s : St) (e : E) (u : Option Nat) : eqType s e u ≠ .unknown := by
  fun_cases eqType s e u <;> nofun

theorem eqType_const {s : St} {e : E} {o : Option Nat}
    (h : eqType s e o = .trueConstant ∨ eqType s e o = .varConstant) :
    ∃ u, o = some u ∧ ((s.v u).ty = .ctc ∨ (s.v u).ty = .cvc) := by
  revert h
  fun_cases eqType s e o with
  | case4 u _ hctc => exact fun _ => ⟨u, rfl, Or.inl hctc⟩
  | case5 u _ hcvc => exact fun _ => ⟨u, rfl, Or.inr hcvc⟩
  | _ => exact fun h => h.elim nofun nofun

@[simp] theorem setV_eqs (s : St) (i : Nat) (f : V → V) : (s.setV i f).eqs = s.eqs := rfl
@[simp] theorem setE_eqs (s : St) (i : Nat) (e : E) : (s.setE i e).eqs = s.eqs.set i e := rfl

theorem v_setV (s : St) (i j : Nat) (f : V → V) :
    (s.setV i f).v j = if i = j ∧ j < s.vars.length then f (s.v j) else s.v j := by
  simp only [St.v, St.setV, List.getD_eq_getElem?_getD, List.getElem?_modify]
  by_cases hij : i = j
  · subst hij
    by_cases hl : i < s.vars.length <;> simp [hl]
  · simp [hij]

/-- a step that touches only classes: equations, length and marks kept, a class whose type changes gets one in `T` -/
structure Retypes (T : VT → Prop) (s s' : St) : Prop where
  eqs : s'.eqs = s.eqs
  length : s'.vars.length = s.vars.length
  ext : ∀ i, (s'.v i).ext = (s.v i).ext
  ty : ∀ i, (s'.v i).ty = (s.v i).ty ∨ T (s'.v i).ty

theorem Retypes.refl (T : VT → Prop) (s : St) : Retypes T s s := ⟨rfl, rfl, fun _ => rfl, fun _ => Or.inl rfl⟩

theorem Retypes.trans {T : VT → Prop} {a b c : St} (h1 : Retypes T a b) (h2 : Retypes T b c) : Retypes T a c :=
  ⟨h2.eqs.trans h1.eqs, h2.length.trans h1.length, fun i => (h2.ext i).trans (h1.ext i),
    fun i => (h2.ty i).elim (fun h => h ▸ h1.ty i) Or.inr⟩

theorem Retypes.mono {T T' : VT → Prop} {s s' : St} (h : Retypes T s s') (hT : ∀ t, T t → T' t) : Retypes T' s s' :=
  ⟨h.eqs, h.length, h.ext, fun i => (h.ty i).imp_right (hT _)⟩

theorem Retypes.counters {T : VT → Prop} {s t : St} (h : Retypes T s t) (si vi : Nat) :
    Retypes T s { t with stateIndex := si, variableIndex := vi } := ⟨h.eqs, h.length, h.ext, h.ty⟩

theorem retypes_setV {T : VT → Prop} (s : St) (i : Nat) (f : V → V)
    (hf : ∀ x, (f x).ext = x.ext ∧ ((f x).ty = x.ty ∨ T (f x).ty)) : Retypes T s (s.setV i f) := by
  have h : ∀ j, ((s.setV i f).v j).ext = (s.v j).ext ∧ (((s.setV i f).v j).ty = (s.v j).ty ∨ T ((s.setV i f).v j).ty) := by
    intro j
    rw [v_setV]
    split
    · exact hf _
    · exact ⟨rfl, Or.inl rfl⟩
  exact ⟨rfl, by simp [St.setV], fun j => (h j).1, fun j => (h j).2⟩

theorem retypes_foldl_setV {T : VT → Prop} (l : List Nat) (f : V → V)
    (hf : ∀ x, (f x).ext = x.ext ∧ ((f x).ty = x.ty ∨ T (f x).ty)) (s : St) :
    Retypes T s (l.foldl (fun s v => s.setV v f) s) :=
  List.foldlRecOn (motive := fun (t : St) => Retypes T s t) l _ (Retypes.refl T s)
    fun t h v _ => h.trans (retypes_setV t v f hf)

/-- the type `tag` gives a class that has none (the conditional written inline in `tag`) -/
def tagType (ctc cvc : Bool) : VT := if ctc then .ctc else if cvc then .cvc else .algebraic

theorem tagType_ne (ctc cvc : Bool) : tagType ctc cvc ≠ .unknown := by
  cases ctc <;> cases cvc <;> decide

theorem tagType_false : tagType false false = .algebraic := rfl

theorem tag_eq (comp : Nat) (ctc cvc : Bool) (s : St) (v : Nat) :
    tag comp ctc cvc s v =
      if ((s.setV v fun x => { x with rep := comp }).v v).ty = .unknown
      then (s.setV v fun x => { x with rep := comp }).setV v fun x => { x with ty := tagType ctc cvc }
      else s.setV v fun x => { x with rep := comp } := rfl

theorem retypes_tag (comp : Nat) (ctc cvc : Bool) (s : St) (v : Nat) :
    Retypes (· = tagType ctc cvc) s (tag comp ctc cvc s v) := by
  have k1 : Retypes (· = tagType ctc cvc) s (s.setV v fun x => { x with rep := comp }) :=
    retypes_setV _ _ _ fun x => ⟨rfl, Or.inl rfl⟩
  rw [tag_eq]
  split
  · exact k1.trans (retypes_setV _ _ (fun x => { x with ty := tagType ctc cvc }) fun x => ⟨rfl, Or.inr rfl⟩)
  · exact k1

theorem retypes_bump (T : VT → Prop) (s : St) (v : Nat) (b : Bool) : Retypes T s (bump s v b) := by
  cases b
  all_goals
    refine Retypes.counters ?_ _ _
    exact retypes_setV s v _ fun x => ⟨rfl, Or.inl rfl⟩

theorem assign_spec {comp : Nat} {ctc cvc : Bool} (l : List Nat) {s s' : St} {acc u : List Nat}
    (h : assign comp ctc cvc l s acc = some (s', u)) : u = acc ++ l ∧ Retypes (· = tagType ctc cvc) s s' := by
  fun_induction assign comp ctc cvc l s acc with
  | case1 => cases h; exact ⟨(List.append_nil _).symm, .refl _ _⟩
  | case7 => cases h
  -- a state and the four kinds of variable are tagged and get their index, and `assign` goes on
  | case2 v rest s acc _ ih | case3 v rest s acc _ ih | case4 v rest s acc _ ih | case5 v rest s acc _ ih
  | case6 v rest s acc _ ih =>
    obtain ⟨h1, h2⟩ := ih h
    exact ⟨h1.trans (List.append_assoc _ _ _), ((retypes_tag comp ctc cvc s v).trans (retypes_bump _ _ v _)).trans h2⟩

theorem prepare_eq (s : St) (e : E) (nla : Bool) :
    (prepare s e nla).2.1 = { e with
      ctc := e.ctc && !(e.vars.any (isKnown s) || e.odes.any (isKnown s)),
      cvc := e.cvc && !(e.vars.any (isNonConstant s) || e.odes.any (isNonConstant s)),
      deps := e.deps ++ (e.vars.filter (isKnown s)).map (fun v => (v, (s.v v).rep)),
      vars := e.vars.filter (fun v => !isKnown s v), odes := e.odes.filter (fun v => !isKnownOde s v) } := rfl

theorem toAssign_vars {e : E} (inits : List Nat) (h : e.vars ≠ []) : toAssign e inits = e.vars := by
  unfold toAssign
  cases hv : e.vars with
  | nil => exact absurd hv h
  | cons a t => rfl

theorem unknownLeftOf_mem {e : E} {u : Nat} (hne : e.vars ≠ []) (h : unknownLeftOf e = some u) : u ∈ e.vars := by
  unfold unknownLeftOf at h
  split at h
  · cases hv : e.vars with
    | nil => exact absurd hv hne
    | cons a t => rw [hv] at h; cases h; exact List.mem_cons_self
  · cases h

theorem retypes_prepare (s : St) (e : E) (nla : Bool) : Retypes (· = .initAlg) s (prepare s e nla).1 :=
  retypes_foldl_setV _ (fun x => { x with ty := .initAlg }) (fun _ => ⟨rfl, Or.inr rfl⟩) s

theorem settle_cases (s : St) (e : E) (inits : List Nat) (nla : Bool) :
    (∃ s', Retypes (· = .overconstrained) s s' ∧ settle s e inits nla = (s', e, false))
    ∨ ∃ s', Retypes (· = tagType e.ctc e.cvc) s s' ∧
        settle s e inits nla = (s', { e with
          ty := eqType s' e (unknownLeftOf e), unknowns := e.unknowns ++ toAssign e inits,
          deps := e.deps.filter (fun d => !(toAssign e inits).any fun u => d = (u, (s'.v u).rep)) }, true) := by
  fun_cases settle s e inits nla with
  | case1 =>
    exact Or.inl ⟨_, retypes_foldl_setV _ (fun x => { x with ty := .overconstrained }) (fun _ => ⟨rfl, Or.inr rfl⟩) s, rfl⟩
  | case2 | case4 => exact Or.inl ⟨s, .refl _ s, rfl⟩
  | case3 _ _ s' unk hass =>
    obtain ⟨hu, hr⟩ := assign_spec _ hass
    obtain rfl : unk = toAssign e inits := hu.trans (List.nil_append _)
    exact Or.inr ⟨s', hr, rfl⟩

theorem checkCore_cases (s : St) (e : E) (nla : Bool) :
    let s₁ := (prepare s e nla).1
    let e₁ := (prepare s e nla).2.1
    let inits := (prepare s e nla).2.2
    (∃ s', Retypes (· = .overconstrained) s₁ s' ∧ checkCore s e nla = (s', e₁, false))
    ∨ ∃ s', Retypes (· = tagType e₁.ctc e₁.cvc) s₁ s' ∧
        checkCore s e nla = (s', { e₁ with
          ty := eqType s' e₁ (unknownLeftOf e₁), unknowns := e₁.unknowns ++ toAssign e₁ inits,
          deps := e₁.deps.filter (fun d => !(toAssign e₁ inits).any fun u => d = (u, (s'.v u).rep)) }, true) :=
  settle_cases _ _ _ nla

theorem retypes_checkCore (s : St) (e : E) (nla : Bool) : Retypes (· ≠ .unknown) s (checkCore s e nla).1 := by
  have hp : Retypes (· ≠ .unknown) s (prepare s e nla).1 := (retypes_prepare s e nla).mono fun t ht => ht ▸ by decide
  rcases checkCore_cases s e nla with ⟨s', hs, h⟩ | ⟨s', hs, h⟩ <;> rw [h]
  · exact hp.trans (hs.mono fun t ht => ht ▸ by decide)
  · exact hp.trans (hs.mono fun t ht => ht ▸ tagType_ne _ _)

theorem checkCore_ty (s : St) (e : E) (nla : Bool) :
    ((checkCore s e nla).2.2 = true → (checkCore s e nla).2.1.ty ≠ .unknown)
      ∧ ((checkCore s e nla).2.2 = false → (checkCore s e nla).2.1.ty = e.ty) := by
  rcases checkCore_cases s e nla with ⟨s', _, h⟩ | ⟨s', _, h⟩ <;> rw [h]
  · exact ⟨fun hf => (nomatch hf), fun _ => rfl⟩
  · exact ⟨fun _ => eqType_ne _ _ _, fun hf => (nomatch hf)⟩

theorem count_ty_le (t : ET) (l : List E) : (l.map (·.ty)).count t ≤ l.length :=
  Nat.le_trans List.count_le_length (Nat.le_of_eq (List.length_map _))

/-- replacing the equation at `i` moves one unit of the count of the type `t`: the old equation in front of the new
    list is a permutation of the new equation in front of the old list -/
theorem count_ty_set (t : ET) (l : List E) (i : Nat) (e e' : E) (h : l[i]? = some e) :
    ((l.set i e').map (·.ty)).count t + (if e.ty = t then 1 else 0)
      = (l.map (·.ty)).count t + (if e'.ty = t then 1 else 0) := by
  have := ((cons_set_perm h e').map (·.ty)).count_eq t
  simpa only [List.map_cons, List.count_cons, beq_iff_eq] using this

theorem check_cases (s : St) (i : Nat) (nla : Bool) :
    check s i nla = (s, false) ∨
      ∃ e, s.eqs[i]? = some e ∧ e.ty = .unknown ∧
        check s i nla = ((checkCore s e nla).1.setE i (checkCore s e nla).2.1, (checkCore s e nla).2.2) := by
  fun_cases check s i nla with
  | case1 | case2 => exact Or.inl rfl
  | case3 e he hty => exact Or.inr ⟨e, he, Decidable.of_not_not hty, rfl⟩

theorem sweep_rule {P : St → Prop} {nla : Bool} (h : ∀ s i, P s → P (check s i nla).1) {s : St} (hs : P s) :
    P (sweep s nla).1 :=
  List.foldlRecOn (motive := fun (acc : St × Bool) => P acc.1) _ _ hs fun acc hacc i _ => h acc.1 i hacc

/-- the step between the second and the third pass: unknown marked classes are considered initialised (the record
    update written inline in `loop` and `loopO`) -/
def markInitialised (s : St) : St :=
  { s with vars := s.vars.map fun x => if x.ext && x.ty = .unknown then { x with ty := .initialised } else x }

theorem v_markInitialised (s : St) (i : Nat) :
    (markInitialised s).v i
      = if (s.v i).ext && (s.v i).ty = .unknown then { s.v i with ty := .initialised } else s.v i := by
  simp only [St.v, markInitialised, List.getD_eq_getElem?_getD, List.getElem?_map]
  cases s.vars[i]? <;> rfl

theorem retypes_markInitialised (s : St) : Retypes (· = .initialised) s (markInitialised s) := by
  have h : ∀ i, ((markInitialised s).v i).ext = (s.v i).ext
      ∧ (((markInitialised s).v i).ty = (s.v i).ty ∨ ((markInitialised s).v i).ty = .initialised) := by
    intro i
    rw [v_markInitialised]
    split
    · exact ⟨rfl, Or.inr rfl⟩
    · exact ⟨rfl, Or.inl rfl⟩
  exact ⟨rfl, by simp [markInitialised], fun i => (h i).1, fun i => (h i).2⟩

/-- By the induction principle of `loopO`, whose cases are: out of fuel; a relevant sweep, same pass again; nothing
    relevant in pass 1 or 3, next pass; nothing relevant in pass 2, where the marked unknowns are initialised and
    the loop goes on with pass 3 if there is a mark, or ends; nothing relevant in any other pass, the end.
    Because of the exit after pass 2, `hend` asks for pass 3 or later and not for pass 4. -/
theorem loopO_rule {P : Nat → St → Prop} {Q : St → Prop}
    (hsweep : ∀ ln s nla, P ln s → P ln (sweep s nla).1)
    (hnext : ∀ ln s, ln = 1 ∨ ln = 3 → P ln s → P (ln + 1) s)
    (hmark : ∀ s, P 2 s → P 3 (markInitialised s))
    (hend : ∀ ln s, 3 ≤ ln → P ln s → Q s)
    (fuel : Nat) (s : St) (ln : Nat) (nla : Bool) (r : St) (h1 : 1 ≤ ln) (h : loopO fuel s ln nla = some r)
    (hp : P ln s) : Q r := by
  have hsw : ∀ {ln s nla s' rel}, sweep s nla = (s', rel) → P ln s → P ln s' :=
    fun {ln s nla _ _} hs hp => by have := hsweep ln s nla hp; rwa [hs] at this
  fun_induction loopO fuel s ln nla with
  | case1 => cases h
  | case2 fuel s ln nla s' hs ih => exact ih h1 h (hsw hs hp)
  | case3 fuel s ln nla s' rel hs _ h13 ih =>
    exact ih (Nat.le_succ_of_le h1) h (hnext ln s' (by simpa using h13) (hsw hs hp))
  | case4 fuel s nla s' rel hs _ _ _ _ _ ih => exact ih (by decide) h (hmark s' (hsw hs hp))
  | case5 fuel s nla s' rel hs => exact Option.some.inj h ▸ hend 3 _ (Nat.le_refl _) (hmark s' (hsw hs hp))
  | case6 fuel s ln nla s' rel hs _ h13 h2 =>
    have : ¬ (ln = 1 ∨ ln = 3) := by simpa using h13
    exact Option.some.inj h ▸ hend ln _ (by omega) (hsw hs hp)

/-- for an invariant that does not depend on the pass: `loop` with any fuel, from any pass (the cases of `loop` are
    those of `loopO`) -/
theorem loop_preserves {P : St → Prop} (hcheck : ∀ s i nla, P s → P (check s i nla).1)
    (hmark : ∀ s, P s → P (markInitialised s)) (fuel : Nat) (s : St) (ln : Nat) (nla : Bool) (hs : P s) :
    P (loop fuel s ln nla) := by
  have hsw : ∀ {s nla s' rel}, sweep s nla = (s', rel) → P s → P s' :=
    fun {s nla _ _} h hs => by have := sweep_rule (hcheck · · nla) hs; rwa [h] at this
  fun_induction loop fuel s ln nla with
  | case1 => exact hs
  | case2 fuel s ln nla s' h ih => exact ih (hsw h hs)
  | case3 fuel s ln nla s' rel h _ _ ih => exact ih (hsw h hs)
  | case4 fuel s nla s' rel h _ _ _ _ _ ih => exact ih (hmark s' (hsw h hs))
  | case5 fuel s nla s' rel h => exact hmark s' (hsw h hs)
  | case6 fuel s ln nla s' rel h => exact hsw h hs

theorem retypes_finish (s : St) : Retypes (· = .constant) s (finish s) :=
  List.foldlRecOn (motive := Retypes (· = .constant) s) _ _ (.refl _ s) fun t h i _ => by
    split
    · refine h.trans (Retypes.counters ?_ _ _)
      exact retypes_setV t i _ fun _ => ⟨rfl, Or.inr rfl⟩
    · exact h

theorem retypes_nlaOverconstrained (s : St) : Retypes (· = .overconstrained) s (nlaOverconstrained s) :=
  List.foldlRecOn (motive := Retypes (· = .overconstrained) s) _ _ (.refl _ s) fun t h e _ => by
    dsimp only
    split
    · split
      · exact h.trans (retypes_foldl_setV _ (fun x => { x with ty := .overconstrained }) (fun _ => ⟨rfl, Or.inr rfl⟩) t)
      · exact h
    · exact h

/-- does the equation `e` with unknown `u` read something that is not some kind of constant? -/
def readsNonConstant (s : St) (e : E) (u : Nat) : Bool :=
  e.all.any (fun v => v ≠ u && (s.v v).ty ≠ .constant && (s.v v).ty ≠ .ctc && (s.v v).ty ≠ .cvc)

/-- does equation `i` of `s` have to be requalified? -/
def needs (s : St) (i : Nat) : Bool :=
  match s.eqs[i]? with
  | some e =>
    if e.ty = .varConstant then
      (match e.unknowns.head? with
        | some u => readsNonConstant s e u
        | none => false)
    else false
  | none => false

/-- the body of the fold in `requalifyPass`, by `rfl` -/
def rqStep (acc : St × Bool) (i : Nat) : St × Bool :=
  match acc.1.eqs[i]? with
  | some e =>
    if e.ty = .varConstant then
      match e.unknowns.head? with
      | some u =>
        if readsNonConstant acc.1 e u then
          ((acc.1.setV u fun x => { x with ty := .algebraic }).setE i { e with ty := .algebraic }, true)
        else acc
      | none => acc
    else acc
  | none => acc

theorem rqStep_cases (acc : St × Bool) (i : Nat) :
    (needs acc.1 i = false ∧ rqStep acc i = acc) ∨
      ∃ e u, acc.1.eqs[i]? = some e ∧ e.ty = .varConstant ∧
        rqStep acc i = ((acc.1.setV u fun x => { x with ty := .algebraic }).setE i { e with ty := .algebraic }, true) := by
  fun_cases rqStep acc i with
  | case1 e he hv u => exact Or.inr ⟨e, u, he, hv, rfl⟩
  | case2 e he hv u hu hr => exact Or.inl ⟨by simp [needs, he, hv, hu, hr], rfl⟩
  | case3 e he hv hu => exact Or.inl ⟨by simp [needs, he, hv, hu], rfl⟩
  | case4 e he hv => exact Or.inl ⟨by simp [needs, he, hv], rfl⟩
  | case5 he => exact Or.inl ⟨by simp [needs, he], rfl⟩

theorem requalify_rule {P : St → Prop}
    (h : ∀ s i e u, P s → s.eqs[i]? = some e → e.ty = .varConstant →
      P ((s.setV u fun x => { x with ty := .algebraic }).setE i { e with ty := .algebraic }))
    (fuel : Nat) (s : St) (hs : P s) : P (requalifyLoop fuel s) := by
  have hpass : ∀ {s s' ch}, requalifyPass s = (s', ch) → P s → P s' := fun {s _ _} hp hs => by
    have : P (requalifyPass s).1 :=
      List.foldlRecOn (motive := fun (acc : St × Bool) => P acc.1) _ _ hs fun acc hacc i _ => by
        show P (rqStep acc i).1
        rcases rqStep_cases acc i with ⟨_, h1⟩ | ⟨e, u, he, hv, h1⟩
        · rw [h1]; exact hacc
        · rw [h1]; exact h _ _ _ _ hacc he hv
    rwa [hp] at this
  fun_induction requalifyLoop fuel s with
  | case1 => exact hs
  | case2 fuel s s' hp ih => exact ih (hpass hp hs)
  | case3 fuel s s' ch hp => exact hpass hp hs

end Cellml.Analyser
