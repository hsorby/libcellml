/-
  C05 — the classification loop terminates within `fuelFor` sweeps: every sweep that reports a relevant check types
  at least one more equation, no check un-types one, and there are at most four phase changes.
-/
import Cellml.Analyser.Steps
namespace Cellml.Analyser

def unknownCount (s : St) : Nat := (s.eqs.map (·.ty)).count .unknown

theorem check_count (s : St) (i : Nat) (nla : Bool) :
    unknownCount (check s i nla).1 + (if (check s i nla).2 then 1 else 0) = unknownCount s := by
  rcases check_cases s i nla with h | ⟨e, he, hu, h⟩ <;> rw [h]
  · rfl
  -- storing the checked equation moves one unit of the count (`count_ty_set`); the old equation is untyped, the new one
  -- is typed exactly when the check is relevant (`checkCore_ty`)
  · have he' : (checkCore s e nla).1.eqs[i]? = some e := (retypes_checkCore s e nla).eqs ▸ he
    have hc := count_ty_set .unknown _ i e (checkCore s e nla).2.1 he'
    have ht := checkCore_ty s e nla
    rw [(retypes_checkCore s e nla).eqs, if_pos hu] at hc
    simp only [unknownCount, setE_eqs, (retypes_checkCore s e nla).eqs]
    cases hf : (checkCore s e nla).2.2
    · rw [if_pos ((ht.2 hf).trans hu)] at hc; simpa using hc
    · rw [if_neg (ht.1 hf)] at hc; simpa using hc

theorem sweep_count {s s' : St} {nla rel : Bool} (h : sweep s nla = (s', rel)) :
    unknownCount s' + (if rel then 1 else 0) ≤ unknownCount s := by
  have : unknownCount (sweep s nla).1 + (if (sweep s nla).2 then 1 else 0) ≤ unknownCount s := List.foldlRecOn
    (motive := fun (acc : St × Bool) => unknownCount acc.1 + (if acc.2 then 1 else 0) ≤ unknownCount s)
    _ _ (Nat.le_refl _) fun acc hacc i _ => by
      have hc := check_count acc.1 i nla
      have : (if ((check acc.1 i nla).2 || acc.2) = true then 1 else 0)
          ≤ (if (check acc.1 i nla).2 = true then 1 else 0) + (if acc.2 = true then 1 else 0) := by
        cases (check acc.1 i nla).2 <;> cases acc.2 <;> decide
      show unknownCount (check acc.1 i nla).1 + (if ((check acc.1 i nla).2 || acc.2) = true then 1 else 0) ≤ _
      omega
  rwa [h] at this

theorem loop_eq_loopO : ∀ (fuel : Nat) (s : St) (ln : Nat) (nla : Bool) (r : St),
    loopO fuel s ln nla = some r → loop fuel s ln nla = r := by
  intro fuel s ln nla r h
  -- in each case `loop` is unfolded along the branch `loopO` has taken
  fun_induction loopO fuel s ln nla with
  | case1 => cases h
  | case2 fuel s ln nla s' hs ih =>
    rw [loop, hs]
    exact ih h
  | case3 fuel s ln nla s' rel hs hr h13 ih =>
    rw [loop, hs]
    dsimp only
    rw [if_neg hr, if_pos h13]
    exact ih h
  | case4 fuel s nla s' rel hs hr _ _ he h13 ih =>
    rw [loop, hs]
    dsimp only
    rw [if_neg hr, if_neg h13, if_pos rfl, if_pos he]
    exact ih h
  | case5 fuel s nla s' rel hs hr _ _ he h13 =>
    rw [loop, hs]
    dsimp only
    rw [if_neg hr, if_neg h13, if_pos rfl, if_neg he]
    exact Option.some.inj h
  | case6 fuel s ln nla s' rel hs hr h13 h2 =>
    rw [loop, hs]
    dsimp only
    rw [if_neg hr, if_neg h13, if_neg h2]
    exact Option.some.inj h

/-- a relevant sweep costs one untyped equation, any other moves on to the next of the four passes, so from pass `ln`
    the loop needs at most `unknownCount s + 5 - ln` sweeps; `loop` with that fuel is the loop run to its end.
    The cases are numbered as in the docstring of `loopO_rule`. -/
theorem loopO_some (fuel : Nat) (s : St) (ln : Nat) (nla : Bool) (h4 : ln ≤ 4)
    (h : unknownCount s + 5 ≤ fuel + ln) : ∃ r, loopO fuel s ln nla = some r ∧ loop fuel s ln nla = r := by
  suffices hsome : ∃ r, loopO fuel s ln nla = some r from
    hsome.imp fun r hr => ⟨hr, loop_eq_loopO _ _ _ _ _ hr⟩
  fun_induction loopO fuel s ln nla with
  | case1 => omega
  | case2 fuel s ln nla s' hs ih =>
    have hc := sweep_count hs
    rw [if_pos rfl] at hc
    exact ih h4 (by omega)
  | case3 fuel s ln nla s' rel hs hr h13 ih =>
    have hc := sweep_count hs
    rw [if_neg hr] at hc
    have : ln = 1 ∨ ln = 3 := by simpa using h13
    exact ih (by omega) (by omega)
  | case4 fuel s nla s' rel hs hr _ _ he h13 ih =>
    have hc := sweep_count hs
    rw [if_neg hr] at hc
    exact ih (by decide) (show unknownCount s' + 5 ≤ fuel + 3 by omega)
  | case5 | case6 => exact ⟨_, rfl⟩

/-- from pass 1 `loopO_some` asks for `unknownCount s + 4` sweeps; `fuelFor` has two to spare -/
theorem loop_fuelFor (s : St) : ∃ r, loopO (fuelFor s) s 1 false = some r ∧ loop (fuelFor s) s 1 false = r :=
  loopO_some (fuelFor s) s 1 false (by decide)
    (by have := count_ty_le .unknown s.eqs; unfold fuelFor unknownCount; omega)

end Cellml.Analyser
