/-
  C05 / C20 — executable model of the classification core of `Analyser::AnalyserImpl::analyseModel`:
  `AnalyserInternalEquation::check()` and the three-pass "check every equation until nothing changes" loop, over an
  abstraction of the model: variables are equivalence classes (with the component of their current representative),
  equations record their component, the classes they mention outside / inside `diff`, and what stands alone on
  either side.  Names are assumed unique per class member, so the name comparison of `variableOnLhsRhs` is
  "same class and the representative is the variable of this component".
-/
namespace Cellml.Analyser

inductive VT
  | unknown | shouldBeState | initialised | voi | state | constant | ctc | cvc | initAlg | algebraic | overconstrained
  deriving DecidableEq, Repr, Inhabited

inductive ET | unknown | trueConstant | varConstant | ode | nla | algebraic
  deriving DecidableEq, Repr, Inhabited

structure V where
  ty : VT
  idx : Option Nat := none       -- mIndex
  ext : Bool := false            -- mIsExternal
  rep : Nat                      -- component of the current representative (`mVariable`)
  deriving Repr, Inhabited

/-- what stands alone on one side of an equation: (class, is it `d class/dt`) -/
abbrev Side := Option (Nat × Bool)

structure E where
  ty : ET := .unknown
  comp : Nat
  vars : List Nat                -- mVariables
  odes : List Nat                -- mOdeVariables
  all : List Nat                 -- mAllVariables
  deps : List (Nat × Nat) := []  -- mDependencies: (class, component of its representative when the dependency was recorded)
  unknowns : List Nat := []      -- mUnknownVariables
  ctc : Bool := true             -- mComputedTrueConstant
  cvc : Bool := true             -- mComputedVariableBasedConstant
  lhs : Side
  rhs : Side
  deriving Repr, Inhabited

structure St where
  vars : List V
  eqs : List E
  stateIndex : Nat := 0          -- number of state indices handed out
  variableIndex : Nat := 0
  deriving Repr, Inhabited

def St.v (s : St) (i : Nat) : V := s.vars.getD i ⟨.unknown, none, false, 0⟩

def St.setV (s : St) (i : Nat) (f : V → V) : St := { s with vars := s.vars.modify i f }

def St.setE (s : St) (i : Nat) (e : E) : St := { s with eqs := s.eqs.set i e }

/-- `variableOnLhsRhs` for one side: the variable that stands alone there belongs to the class (fix 242ccce: through
    `areEquivalentVariables`, not through the name of the class's current representative) -/
def onSide (s : St) (_e : E) (v : Nat) : Side → Bool
  | none => false
  | some (w, isDiff) =>
    if isDiff then w = v
    else (s.v v).ty ≠ .state && w = v

def onLhsOrRhs (s : St) (e : E) (v : Nat) : Bool := onSide s e v e.lhs || onSide s e v e.rhs

def isKnown (s : St) (v : Nat) : Bool := (s.v v).ty ≠ .unknown
def isKnownOde (s : St) (v : Nat) : Bool := (s.v v).idx.isSome
def isNonConstant (s : St) (v : Nat) : Bool :=
  (s.v v).ext || ((s.v v).ty ≠ .unknown && (s.v v).ty ≠ .initialised && (s.v v).ty ≠ .ctc && (s.v v).ty ≠ .cvc)

/-- `setVariable(localVariable)` and the default type of a variable an equation is found to compute -/
def tag (comp : Nat) (ctc cvc : Bool) (s : St) (v : Nat) : St :=
  let s := s.setV v fun x => { x with rep := comp }
  if (s.v v).ty = .unknown then s.setV v fun x => { x with ty := if ctc then .ctc else if cvc then .cvc else .algebraic } else s

/-- hand out the next state / variable index -/
def bump (s : St) (v : Nat) (isState : Bool) : St :=
  if isState then { s.setV v fun x => { x with idx := some s.stateIndex } with stateIndex := s.stateIndex + 1 }
  else { s.setV v fun x => { x with idx := some s.variableIndex } with variableIndex := s.variableIndex + 1 }

/-- assign type and index to the variables an equation is found to compute; `none` = the early `return false` -/
def assign (comp : Nat) (ctc cvc : Bool) : List Nat → St → List Nat → Option (St × List Nat)
  | [], s, acc => some (s, acc)
  | v :: rest, s, acc =>
    match ((tag comp ctc cvc s v).v v).ty with
    | .state => assign comp ctc cvc rest (bump (tag comp ctc cvc s v) v true) (acc ++ [v])
    | .ctc | .cvc | .initAlg | .algebraic => assign comp ctc cvc rest (bump (tag comp ctc cvc s v) v false) (acc ++ [v])
    | _ => none

/-- first half of `check`: constant flags, dependencies, untracking of known variables, the initialised variables of a
    fully determined equation when NLA systems are looked for -/
def prepare (s : St) (e : E) (nla : Bool) : St × E × List Nat :=
  let hasKnown := e.vars.any (isKnown s) || e.odes.any (isKnown s)
  let hasNonConst := e.vars.any (isNonConstant s) || e.odes.any (isNonConstant s)
  let e := { e with ctc := e.ctc && !hasKnown, cvc := e.cvc && !hasNonConst, deps := e.deps ++ (e.vars.filter (isKnown s)).map (fun v => (v, (s.v v).rep)),
                    vars := e.vars.filter (fun v => !isKnown s v), odes := e.odes.filter (fun v => !isKnownOde s v) }
  let left := e.vars.length + e.odes.length
  let inits := if nla && left = 0 then e.all.filter (fun v => (s.v v).ty = .initialised || (s.v v).ty = .initAlg) else []
  (inits.foldl (fun s v => s.setV v fun x => { x with ty := .initAlg }) s, e, inits)

/-- the type an equation gets from its lone unknown -/
def eqType (s : St) (e : E) (unknownLeft : Option Nat) : ET :=
  match unknownLeft with
  | none => .nla
  | some u =>
    if !onLhsOrRhs s e u then .nla
    else match (s.v u).ty with
      | .state => .ode
      | .ctc => .trueConstant
      | .cvc => .varConstant
      | _ => .algebraic

def unknownLeftOf (e : E) : Option Nat :=
  if e.vars.length + e.odes.length = 1 then (if e.vars.isEmpty then e.odes.head? else e.vars.head?) else none

/-- is something determined by this equation now? -/
def goFlag (s : St) (e : E) (inits : List Nat) (nla : Bool) : Bool :=
  (match unknownLeftOf e with
    | some u => nla || onLhsOrRhs s e u
    | none => false) || !inits.isEmpty

def toAssign (e : E) (inits : List Nat) : List Nat :=
  if e.vars.isEmpty then (if e.odes.isEmpty then inits else e.odes) else e.vars

/-- second half of `check` -/
def settle (s : St) (e : E) (inits : List Nat) (nla : Bool) : St × E × Bool :=
  if nla && e.vars.length + e.odes.length = 0 && inits.isEmpty then
    (e.all.foldl (fun s v => s.setV v fun x => { x with ty := .overconstrained }) s, e, false)
  else if goFlag s e inits nla then
    match assign e.comp e.ctc e.cvc (toAssign e inits) s [] with
    | none => (s, e, false)      -- early `return false` (an uninitialised state, which makes the model invalid)
    | some (s', unk) =>
      (s', { e with ty := eqType s' e (unknownLeftOf e), unknowns := e.unknowns ++ unk, deps := e.deps.filter (fun d => !unk.any fun u => d = (u, (s'.v u).rep)) }, true)
  else (s, e, false)

/-- the body of `AnalyserInternalEquation::check` for an untyped equation `e`: the new state (variables and
    counters only), the updated equation and the "relevant check" flag -/
def checkCore (s : St) (e : E) (nla : Bool) : St × E × Bool :=
  let p := prepare s e nla
  settle p.1 p.2.1 p.2.2 nla

/-- `AnalyserInternalEquation::check` for equation `ei`; returns the new state and the "relevant check" flag -/
def check (s : St) (ei : Nat) (nla : Bool) : St × Bool :=
  match s.eqs[ei]? with
  | none => (s, false)
  | some e =>
    if e.ty ≠ .unknown then (s, false)
    else
      let r := checkCore s e nla
      (r.1.setE ei r.2.1, r.2.2)

/-- one sweep over all equations in order -/
def sweep (s : St) (nla : Bool) : St × Bool :=
  (List.range s.eqs.length).foldl (fun (acc : St × Bool) i => let r := check acc.1 i nla; (r.1, r.2 || acc.2)) (s, false)

/-- the do/while loop with its three "loop numbers"; `fuel` bounds the number of sweeps -/
def loop : Nat → St → Nat → Bool → St
  | 0, s, _, _ => s
  | fuel + 1, s, loopNumber, nla =>
    let (s, relevant) := sweep s nla
    if relevant then loop fuel s loopNumber nla
    else if loopNumber = 1 || loopNumber = 3 then loop fuel s (loopNumber + 1) true
    else if loopNumber = 2 then
      let hasExt := s.vars.any (·.ext)
      let s := { s with vars := s.vars.map fun x => if x.ext && x.ty = .unknown then { x with ty := .initialised } else x }
      if hasExt then loop fuel s 3 false else s
    else s

/-- sweeps needed at most: every relevant sweep types an equation, and there are four phase changes -/
def fuelFor (s : St) : Nat := s.eqs.length + 6

/-- after the loop: still-initialised variables become constants (in class order) -/
def finish (s : St) : St :=
  (List.range s.vars.length).foldl (fun s i =>
    if (s.v i).ty = .initialised then { s.setV i fun x => { x with ty := .constant, idx := some s.variableIndex } with variableIndex := s.variableIndex + 1 } else s) s

/-- "confirm that equations that compute a variable-based constant are still of that type": an equation that reads
    something which is not some kind of constant is requalified as algebraic; one pass in equation order -/
def requalifyPass (s : St) : St × Bool :=
  (List.range s.eqs.length).foldl (fun (acc : St × Bool) i =>
    let s := acc.1
    match s.eqs[i]? with
    | some e =>
      if e.ty = .varConstant then
        match e.unknowns.head? with
        | some u =>
          if e.all.any (fun v => v ≠ u && (s.v v).ty ≠ .constant && (s.v v).ty ≠ .ctc && (s.v v).ty ≠ .cvc) then
            ((s.setV u fun x => { x with ty := .algebraic }).setE i { e with ty := .algebraic }, true)
          else acc
        | none => acc
      else acc
    | none => acc) (s, false)

/-- ... repeated until nothing is requalified (each productive pass turns at least one equation algebraic) -/
def requalifyLoop : Nat → St → St
  | 0, s => s
  | fuel + 1, s => let (s', ch) := requalifyPass s; if ch then requalifyLoop fuel s' else s'

def requalify (s : St) : St := requalifyLoop (s.eqs.length + 1) s

/-- NLA systems with more equations than unknowns: their unknowns are overconstrained -/
def nlaOverconstrained (s : St) : St :=
  s.eqs.foldl (fun acc e =>
    if e.ty = .nla then
      let siblings := (s.eqs.filter fun o => o.ty = .nla && o.unknowns.any (e.unknowns.contains ·)).length - 1
      if siblings + 1 > e.unknowns.length then e.unknowns.foldl (fun a v => a.setV v fun x => { x with ty := .overconstrained }) acc else acc
    else acc) s

def valid (s : St) : Bool := !(s.vars.any fun v => v.ty = .unknown || v.ty = .shouldBeState || v.ty = .overconstrained)

def analyse (s : St) : St :=
  let s := finish (loop (fuelFor s) s 1 false)
  if valid s then nlaOverconstrained (requalify s) else s

inductive MT | ode | algebraic | nla | dae | underconstrained | overconstrained | unsuitably
  deriving DecidableEq, Repr

def modelType (s : St) : MT :=
  let under := s.vars.any fun v => v.ty = .unknown || v.ty = .shouldBeState
  let over := s.vars.any fun v => v.ty = .overconstrained
  if under && over then .unsuitably else if under then .underconstrained else if over then .overconstrained
  else
    let hasOde := s.vars.any fun v => v.ty = .state
    let hasNla := s.eqs.any fun e => e.ty = .nla
    if hasOde then (if hasNla then .dae else .ode) else (if hasNla then .nla else .algebraic)

/-- how a class is numbered in the analysed model -/
inductive Slot | state | variable | none
  deriving DecidableEq, Repr

def slot (v : V) : Slot :=
  if v.ext then .variable
  else match v.ty with
    | .state => .state
    | .constant | .ctc | .cvc | .algebraic | .initAlg => .variable
    | _ => .none

/-- the indices of the `AnalyserVariable`s: classes in creation order, states and the other variables counted separately,
    the variable of integration skipped -/
def idxFrom (si vi : Nat) : List V → List (Option Nat)
  | [] => []
  | v :: r =>
    match slot v with
    | .state => some si :: idxFrom (si + 1) vi r
    | .variable => some vi :: idxFrom si (vi + 1) r
    | .none => none :: idxFrom si vi r

def finalIndices (vs : List V) : List (Option Nat) := idxFrom 0 0 vs

/-- the loop with an explicit "ran out of fuel" outcome, to state that `fuelFor` is enough -/
def loopO : Nat → St → Nat → Bool → Option St
  | 0, _, _, _ => none
  | fuel + 1, s, loopNumber, nla =>
    let (s, relevant) := sweep s nla
    if relevant then loopO fuel s loopNumber nla
    else if loopNumber = 1 || loopNumber = 3 then loopO fuel s (loopNumber + 1) true
    else if loopNumber = 2 then
      let hasExt := s.vars.any (·.ext)
      let s := { s with vars := s.vars.map fun x => if x.ext && x.ty = .unknown then { x with ty := .initialised } else x }
      if hasExt then loopO fuel s 3 false else some s
    else some s

/-- does (typed) equation `j` compute class `v`? -/
def computes (s : St) (j v : Nat) : Bool :=
  match s.eqs[j]? with
  | some e => e.ty ≠ .unknown && e.unknowns.contains v
  | none => false

/-- the equations equation `i` depends on: those that compute one of its recorded dependencies (the lookup of
    `analyseModel` through the internal variable of the class) -/
def eqDeps (s : St) (i : Nat) : List Nat :=
  match s.eqs[i]? with
  | some e => (List.range s.eqs.length).filter fun j => e.deps.any fun d => computes s j d.1
  | none => []

end Cellml.Analyser
