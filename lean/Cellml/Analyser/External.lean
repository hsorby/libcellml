/-
  C20 — external variables in the classification model: a marked class is never left unknown by the loop (it cannot be
  the reason for an underconstrained model), the marks themselves are never changed, and no check makes a typed class
  unknown again.
-/
import Cellml.Analyser.Steps
namespace Cellml.Analyser

/-- nothing that was known becomes unknown, and the external marks are untouched -/
def Keeps (s s' : St) : Prop :=
  s'.vars.length = s.vars.length ∧ ∀ i, ((s'.v i).ty = .unknown → (s.v i).ty = .unknown) ∧ (s'.v i).ext = (s.v i).ext

theorem Keeps.length {s s' : St} (h : Keeps s s') : s'.vars.length = s.vars.length := h.1

theorem Keeps.known {s s' : St} (h : Keeps s s') (i : Nat) : (s'.v i).ty = .unknown → (s.v i).ty = .unknown := (h.2 i).1

theorem Keeps.ext {s s' : St} (h : Keeps s s') (i : Nat) : (s'.v i).ext = (s.v i).ext := (h.2 i).2

theorem Keeps.refl (s : St) : Keeps s s := ⟨rfl, fun _ => ⟨id, rfl⟩⟩

theorem Keeps.trans {a b c : St} (h1 : Keeps a b) (h2 : Keeps b c) : Keeps a c :=
  ⟨h2.length.trans h1.length, fun i => ⟨fun h => h1.known i (h2.known i h), (h2.ext i).trans (h1.ext i)⟩⟩

theorem Retypes.keeps {T : VT → Prop} {s s' : St} (h : Retypes T s s') (hT : ∀ t, T t → t ≠ .unknown) : Keeps s s' :=
  ⟨h.length, fun i => ⟨fun hu => (h.ty i).elim (fun he => he ▸ hu) (fun ht => absurd hu (hT _ ht)), h.ext i⟩⟩

theorem keeps_check (s : St) (i : Nat) (nla : Bool) : Keeps s (check s i nla).1 := by
  rcases check_cases s i nla with h | ⟨e, _, _, h⟩ <;> rw [h]
  · exact Keeps.refl s
  -- `Keeps s (t.setE i e)` is `Keeps s t` by unfolding
  · exact (retypes_checkCore s e nla).keeps fun _ => id

theorem keeps_sweep (s : St) (nla : Bool) : Keeps s (sweep s nla).1 :=
  sweep_rule (P := Keeps s) (fun t i ht => ht.trans (keeps_check t i nla)) (Keeps.refl s)

theorem keeps_markInitialised (s : St) : Keeps s (markInitialised s) :=
  (retypes_markInitialised s).keeps fun _ ht => ht ▸ by decide

/-- no marked class is unknown -/
def ExtKnown (s : St) : Prop := ∀ i, i < s.vars.length → (s.v i).ext = true → (s.v i).ty ≠ .unknown

theorem extKnown_of_keeps {s s' : St} (h : Keeps s s') (hs : ExtKnown s) : ExtKnown s' :=
  fun i hi he hu => hs i (h.length ▸ hi) (h.ext i ▸ he) (h.known i hu)

theorem extKnown_markInitialised (s : St) : ExtKnown (markInitialised s) := by
  intro i _ he hu
  rw [v_markInitialised] at he hu
  split at hu
  next => cases hu
  next hc =>
    rw [if_neg hc] at he
    exact hc (by simp [he, hu])

/-- **a marked class is never left unknown**: when the loop ends, every class marked external has a type, since the
    loop has then been through the step between the second and the third pass -/
theorem loop_extKnown {fuel : Nat} {s r : St} {nla : Bool} (h : loopO fuel s 1 nla = some r) : ExtKnown r :=
  loopO_rule (P := fun ln s => 3 ≤ ln → ExtKnown s) (Q := ExtKnown)
    (hsweep := fun _ s nla hp h3 => extKnown_of_keeps (keeps_sweep s nla) (hp h3))
    -- from `3 ≤ ln + 1` and `ln = 1 ∨ ln = 3` follows `3 ≤ ln`
    (hnext := fun ln _ h13 hp h3 => hp (by omega))
    (hmark := fun s _ _ => extKnown_markInitialised s)
    (hend := fun _ _ h3 hp => hp h3)
    fuel s 1 nla r (Nat.le_refl _) h (fun h3 => absurd h3 (by decide))

end Cellml.Analyser
