/-
  C20 — an equation that reads a class marked external is not a constant equation: once it has stopped tracking the
  marked class, both of its "computes a constant" flags are off, so the unknown it determines becomes algebraic and the
  equation is typed algebraic or NLA, never true constant / variable-based constant.  (This is the decision of
  `isNonConstantVariable` / `hasKnownVariables` in `check()`; a marked class is non-constant whatever its own type.)
-/
import Cellml.Analyser.Lift
namespace Cellml.Analyser

/-- an equation that no longer tracks a marked class it reads has both constant flags off -/
def FlagOk (isE : Nat → Bool) (e0 e : E) : Prop :=
  ∀ v ∈ e0.vars, isE v = true → v ∉ e.vars → e.ctc = false ∧ e.cvc = false

/-- `FlagOk`, and: a typed equation that determines an ordinary unknown and reads a marked class (not one of its own
    unknowns) is not a constant equation -/
def ExtInv (isE : Nat → Bool) (e0 e : E) : Prop :=
  FlagOk isE e0 e ∧ (e.ty ≠ .unknown → e.vars ≠ [] → (∃ v ∈ e0.vars, isE v = true ∧ v ∉ e.unknowns) →
    e.ty ≠ .trueConstant ∧ e.ty ≠ .varConstant)

/-- a marked class that `prepare` stops tracking has become known, and is non-constant for being marked: it switches
    both flags off -/
theorem prepare_flagOk (isE : Nat → Bool) (s : St) (e0 e : E) (nla : Bool) (hm : ∀ v, (s.v v).ext = isE v)
    (h : FlagOk isE e0 e) : FlagOk isE e0 (prepare s e nla).2.1 := by
  intro v hv hext hnot
  rw [prepare_eq] at hnot ⊢
  by_cases hin : v ∈ e.vars
  · have hk : isKnown s v = true := by
      cases hkk : isKnown s v
      · exact absurd (List.mem_filter.mpr ⟨hin, by rw [hkk]; rfl⟩) hnot
      · rfl
    have hnc : isNonConstant s v = true := by unfold isNonConstant; rw [hm v, hext]; rfl
    rw [List.any_eq_true.mpr ⟨v, hin, hk⟩, List.any_eq_true.mpr ⟨v, hin, hnc⟩]
    exact ⟨Bool.and_false _, Bool.and_false _⟩
  · obtain ⟨h1, h2⟩ := h v hv hext hin
    rw [h1, h2]
    exact ⟨rfl, rfl⟩

/-- says nothing (`… ∨ True`); the fact is `prepare_tracked` -/
theorem prepare_unknown_vars (s : St) (e : E) (nla : Bool) :
    ∀ u ∈ (prepare s e nla).2.1.vars, ((prepare s e nla).1.v u).ty = .unknown ∨ True := fun _ _ => Or.inr trivial

theorem prepare_tracked (s : St) (e : E) (nla : Bool) :
    ∀ u ∈ (prepare s e nla).2.1.vars, ((prepare s e nla).1.v u).ty = .unknown ∨ ((prepare s e nla).1.v u).ty = .initAlg := by
  intro u hu
  have hty : (s.v u).ty = .unknown := by simpa [isKnown] using (List.mem_filter.mp hu).2
  exact ((retypes_prepare s e nla).ty u).imp_left (·.trans hty)

theorem checkCore_extInv (isE : Nat → Bool) (s : St) (e0 e : E) (nla : Bool) (hm : ∀ v, (s.v v).ext = isE v)
    (h : ExtInv isE e0 e) (hu : e.ty = .unknown) : ExtInv isE e0 (checkCore s e nla).2.1 := by
  have hp := prepare_flagOk isE s e0 e nla hm h.1
  rcases checkCore_cases s e nla with ⟨s', _, hs⟩ | ⟨s', hr, hs⟩ <;> rw [hs]
  · exact ⟨hp, fun hty => absurd hu hty⟩
  · refine ⟨hp, fun _ hne ⟨v, hv, hext, hnot⟩ => not_or.mp fun hc => ?_⟩
    -- the new unknowns are all the equation tracked; the marked class is not among them, so the flags are off
    have hvars := toAssign_vars (e := (prepare s e nla).2.1) (prepare s e nla).2.2 hne
    obtain ⟨c1, c2⟩ := hp v hv hext fun hin => hnot (List.mem_append_right _ (hvars.symm ▸ hin))
    rw [c1, c2] at hr
    -- so the lone unknown, untyped or `initAlg` before, is algebraic now
    obtain ⟨u, hu1, hu2⟩ := eqType_const hc
    rcases hr.ty u with h' | h'
    · rw [h'] at hu2
      rcases prepare_tracked s e nla u (unknownLeftOf_mem hne hu1) with h'' | h''
      all_goals
        rw [h''] at hu2
        exact hu2.elim nofun nofun
    · rw [h', tagType_false] at hu2
      exact hu2.elim nofun nofun

theorem extInv_self (isE : Nat → Bool) (e : E) (h : e.ty = .unknown) : ExtInv isE e e :=
  ⟨fun _ hv _ hnot => absurd hv hnot, fun hty => absurd h hty⟩

theorem extInv_retype (isE : Nat → Bool) (e0 e : E) (h : ExtInv isE e0 e) : ExtInv isE e0 { e with ty := .algebraic } :=
  ⟨h.1, fun _ _ _ => ⟨nofun, nofun⟩⟩

theorem analyse_ext (s : St) (h : ∀ e ∈ s.eqs, e.ty = .unknown) :
    EqsRel (ExtInv fun v => (s.v v).ext) s.eqs (analyse s).eqs := by
  refine analyse_eqsRel s ?_ ?_ ?_
  · intro s' e0 e nla hk hc hu
    have hmarks : ∀ v, (s'.v v).ext = (s.v v).ext := hk.ext
    exact checkCore_extInv _ s' e0 e nla hmarks hc hu
  · intro e0 e hc _
    exact extInv_retype _ e0 e hc
  · intro e he
    exact extInv_self _ e (h e he)

end Cellml.Analyser
