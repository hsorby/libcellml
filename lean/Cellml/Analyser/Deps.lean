/-
  C05 / C20 — dependency bookkeeping of the classification loop: whatever an equation reads (`mVariables` at the start)
  is, at every moment, still tracked as unknown, recorded as a dependency, or one of the equation's own unknowns; once
  the equation is typed nothing is left in the first group.  (The wiring of `analyseModel`'s second half, the equations
  that compute a recorded dependency, is `eqDeps` in Model.lean.)
-/
import Cellml.Analyser.Lift
namespace Cellml.Analyser

/-- what equation `e` (now) has recorded about the classes `e0` (the same equation at the start) reads -/
def Cov (e0 e : E) : Prop :=
  (∀ v ∈ e0.vars, v ∈ e.vars ∨ v ∈ e.deps.map (·.1) ∨ v ∈ e.unknowns) ∧ (e.ty ≠ .unknown → ∀ v ∈ e.vars, v ∈ e.unknowns)

/-- `EqsRel Cov` (Lift.lean) written out, for the property file -/
def CovAll (es0 es : List E) : Prop :=
  ∀ (i : Nat) (e0 e : E), es0[i]? = some e0 → es[i]? = some e → Cov e0 e

theorem prepare_cov (s : St) (e0 e : E) (nla : Bool) (h : Cov e0 e) (hu : e.ty = .unknown) :
    Cov e0 (prepare s e nla).2.1 := by
  rw [prepare_eq]
  refine ⟨fun v hv => ?_, fun hn => absurd hu hn⟩
  rw [List.map_append, List.mem_append]
  rcases h.1 v hv with h1 | h1 | h1
  · cases hk : isKnown s v
    · exact Or.inl (List.mem_filter.mpr ⟨h1, by rw [hk]; rfl⟩)
    · exact Or.inr (Or.inl (Or.inr (List.mem_map.mpr ⟨_, List.mem_map_of_mem (List.mem_filter.mpr ⟨h1, hk⟩), rfl⟩)))
  · exact Or.inr (Or.inl (Or.inl h1))
  · exact Or.inr (Or.inr h1)

/-- `settle` drops a dependency only if it is one of the unknowns it adds, and these are all the equation still tracks -/
theorem settle_cov (s : St) (e0 e : E) (inits : List Nat) (nla : Bool) (h : Cov e0 e) :
    Cov e0 (settle s e inits nla).2.1 := by
  rcases settle_cases s e inits nla with ⟨s', _, h'⟩ | ⟨s', _, h'⟩ <;> rw [h']
  · exact h
  · refine ⟨fun v hv => ?_, fun _ v hv => ?_⟩
    · rcases h.1 v hv with h1 | h1 | h1
      · exact Or.inl h1
      · obtain ⟨d, hd, rfl⟩ := List.mem_map.mp h1
        cases hc : ((toAssign e inits).any fun u => decide (d = (u, (s'.v u).rep)))
        · exact Or.inr (Or.inl (List.mem_map_of_mem (List.mem_filter.mpr ⟨hd, by rw [hc]; rfl⟩)))
        · obtain ⟨u, hu1, hu2⟩ := List.any_eq_true.mp hc
          rw [of_decide_eq_true hu2]
          exact Or.inr (Or.inr (List.mem_append_right _ hu1))
      · exact Or.inr (Or.inr (List.mem_append_left _ h1))
    · exact List.mem_append_right _ ((toAssign_vars (e := e) inits (List.ne_nil_of_mem hv)).symm ▸ hv)

theorem cov_self (e : E) (h : e.ty = .unknown) : Cov e e :=
  ⟨fun _ hv => Or.inl hv, fun hn => absurd h hn⟩

theorem checkCore_cov (s : St) (e0 e : E) (nla : Bool) (h : Cov e0 e) (hu : e.ty = .unknown) :
    Cov e0 (checkCore s e nla).2.1 :=
  settle_cov _ _ _ _ _ (prepare_cov s e0 e nla h hu)

theorem cov_retype (e0 e : E) (t : ET) (h : Cov e0 e) (hty : e.ty ≠ .unknown) : Cov e0 { e with ty := t } :=
  ⟨h.1, fun _ => h.2 hty⟩

theorem covAll_iff (es0 es : List E) : CovAll es0 es ↔ EqsRel Cov es0 es := Iff.rfl

/-- the whole analysis keeps the record of what every equation reads -/
theorem analyse_cov (s : St) (h : ∀ e ∈ s.eqs, e.ty = .unknown) : CovAll s.eqs (analyse s).eqs := by
  rw [covAll_iff]
  refine analyse_eqsRel s ?_ ?_ ?_
  · intro s' e0 e nla _ hc hu
    exact checkCore_cov s' e0 e nla hc hu
  · intro e0 e hc hv
    exact cov_retype e0 e _ hc (by rw [hv]; decide)
  · intro e he
    exact cov_self e (h e he)

end Cellml.Analyser
