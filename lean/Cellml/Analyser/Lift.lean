/-
  C05 / C20 — the equations are only ever changed by a check of an untyped equation and by the requalification of a
  variable-based-constant equation as algebraic, so a reflexive relation that these two steps keep holds between the
  equations of `s` and those of `analyse s` (`analyse_eqsRel`; instances: Deps.lean, ExtFlags.lean).
-/
import Cellml.Analyser.External
namespace Cellml.Analyser

def EqsRel (R : E → E → Prop) (es0 es : List E) : Prop :=
  ∀ (i : Nat) (e0 e : E), es0[i]? = some e0 → es[i]? = some e → R e0 e

theorem eqsRel_self {R : E → E → Prop} {es : List E} (h : ∀ e ∈ es, R e e) : EqsRel R es es := by
  intro i e0 e h0 h1
  cases h0.symm.trans h1
  exact h _ (List.mem_of_getElem? h0)

theorem eqsRel_set {R : E → E → Prop} {es0 es : List E} {i : Nat} {e e' : E} (h : EqsRel R es0 es)
    (hi : es[i]? = some e) (hc : ∀ e0, R e0 e → R e0 e') : EqsRel R es0 (es.set i e') := by
  intro j e0 x h0 hx
  rw [List.getElem?_set] at hx
  split at hx
  · subst j
    rw [if_pos (List.getElem?_eq_some_iff.mp hi).1] at hx
    cases hx
    exact hc e0 (h i e0 e h0 hi)
  · exact h j e0 x h0 hx

theorem check_eqsRel {R : E → E → Prop} {es0 : List E} {s : St}
    (hcheck : ∀ e0 e nla, R e0 e → e.ty = .unknown → R e0 (checkCore s e nla).2.1) (i : Nat) (nla : Bool)
    (h : EqsRel R es0 s.eqs) : EqsRel R es0 (check s i nla).1.eqs := by
  rcases check_cases s i nla with hc | ⟨e, he, hu, hc⟩ <;> rw [hc]
  · exact h
  · rw [setE_eqs, (retypes_checkCore s e nla).eqs]
    exact eqsRel_set h he fun e0 hr => hcheck e0 e nla hr hu

/-- `Keeps s0 s` gives `hcheck` the classes and marks of the start; any fuel, any pass -/
theorem loop_eqsRel {R : E → E → Prop} (s0 : St)
    (hcheck : ∀ s e0 e nla, Keeps s0 s → R e0 e → e.ty = .unknown → R e0 (checkCore s e nla).2.1)
    (fuel : Nat) (s : St) (ln : Nat) (nla : Bool) (hk : Keeps s0 s) (h : EqsRel R s0.eqs s.eqs) :
    Keeps s0 (loop fuel s ln nla) ∧ EqsRel R s0.eqs (loop fuel s ln nla).eqs := by
  refine loop_preserves (P := fun s => Keeps s0 s ∧ EqsRel R s0.eqs s.eqs) ?_ ?_ fuel s ln nla ⟨hk, h⟩
  · intro s i nla hp
    exact ⟨hp.1.trans (keeps_check s i nla), check_eqsRel (fun e0 e nla => hcheck s e0 e nla hp.1) i nla hp.2⟩
  · intro s hp
    exact ⟨hp.1.trans (keeps_markInitialised s), hp.2⟩

theorem requalifyLoop_eqsRel {R : E → E → Prop} {es0 : List E}
    (hretype : ∀ e0 e, R e0 e → e.ty = .varConstant → R e0 { e with ty := .algebraic })
    (fuel : Nat) (s : St) (h : EqsRel R es0 s.eqs) : EqsRel R es0 (requalifyLoop fuel s).eqs := by
  refine requalify_rule (P := fun t => EqsRel R es0 t.eqs) ?_ fuel s h
  intro t i e u ht he hv
  exact eqsRel_set (es := t.eqs) ht he fun e0 hr => hretype e0 e hr hv

theorem analyse_eqsRel {R : E → E → Prop} (s : St)
    (hcheck : ∀ s' e0 e nla, Keeps s s' → R e0 e → e.ty = .unknown → R e0 (checkCore s' e nla).2.1)
    (hretype : ∀ e0 e, R e0 e → e.ty = .varConstant → R e0 { e with ty := .algebraic })
    (h0 : ∀ e ∈ s.eqs, R e e) : EqsRel R s.eqs (analyse s).eqs := by
  have h1 : EqsRel R s.eqs (finish (loop (fuelFor s) s 1 false)).eqs := by
    rw [(retypes_finish _).eqs]
    exact (loop_eqsRel s hcheck _ s 1 false (Keeps.refl s) (eqsRel_self h0)).2
  unfold analyse
  dsimp only
  split
  · rw [(retypes_nlaOverconstrained _).eqs]
    exact requalifyLoop_eqsRel hretype _ _ h1
  · exact h1

end Cellml.Analyser
