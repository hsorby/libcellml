/-
  C11 ∘ C10 — "the clone equals the original": the clone model's entities read by the model of `equals()`.

  `toEq*` forgets the creation epoch (object identity), which `equals()` never looks at, and lands in the types of
  `Cellml/Equals/Model.lean`.  The bridge is content-preserving by construction (field by field); what is proved is
  that it factors through the content erasure `e*` of `Clone/Proofs.lean`, so that `e (clone x) = e x` transports
  to `toEq (clone x) = toEq x`.
-/
import Cellml.Clone.Proofs
import Cellml.Equals.Model
namespace Cellml.Clone

def toEqImp (i : Imp) : Equals.Imp := ⟨i.src.map fun s => ⟨s.id, s.url⟩, i.ref⟩
def toEqChild (c : UnitChild) : Equals.UnitChild := ⟨c.ref, c.pfx, c.id, c.exp, c.mult⟩
def toEqUnits (u : Units) : Equals.Units := ⟨u.id, u.name, toEqImp u.imp, u.children.map toEqChild⟩
def toEqVariable (v : Variable) : Equals.Variable :=
  ⟨v.id, v.name, v.initial, v.iface, v.units.map toEqUnits⟩

theorem toEqImp_e (i : Imp) : toEqImp (eImp i) = toEqImp i := by
  obtain ⟨_ | src, ref⟩ := i <;> rfl

theorem toEqUnits_e (u : Units) : toEqUnits (eUnits u) = toEqUnits u := by
  simp [toEqUnits, eUnits, toEqImp_e]

theorem toEqVariable_e (v : Variable) : toEqVariable (eVariable v) = toEqVariable v := by
  obtain ⟨ep, id, name, ini, ifc, units⟩ := v
  cases units <;> simp [toEqVariable, eVariable, toEqUnits_e]

theorem toEqUnits_congr {u u' : Units} (h : eUnits u = eUnits u') : toEqUnits u = toEqUnits u' := by
  rw [← toEqUnits_e u, h, toEqUnits_e]

theorem toEqVariable_congr {v v' : Variable} (h : eVariable v = eVariable v') : toEqVariable v = toEqVariable v' := by
  rw [← toEqVariable_e v, h, toEqVariable_e]

end Cellml.Clone
