/-
  C11 — `clone()` preserves content and creates every object anew (import sources excepted).
-/
import Cellml.Clone.Model
namespace Cellml.Clone

/-! ### content = the value with every epoch erased -/

def eImp (i : Imp) : Imp := { i with src := i.src.map fun s => { s with ep := 0 } }
def eUnits (u : Units) : Units := { u with ep := 0, imp := eImp u.imp }
def eVariable (v : Variable) : Variable := { v with ep := 0, units := v.units.map eUnits }
def eVRef : VRef → VRef
  | .none_ => .none_ | .own k => .own k | .free v => .free (eVariable v)
def eReset (r : Reset) : Reset := { r with ep := 0, var := eVRef r.var, testVar := eVRef r.testVar }
def eComponent : Nat → Component → Component
  | 0, c => c
  | f+1, .mk _ id name encId math imp vars resets kids =>
    .mk 0 id name encId math (eImp imp) (vars.map eVariable) (resets.map eReset) (kids.map (eComponent f))

def WithinDepth : Nat → Component → Prop
  | 0, _ => False
  | n+1, .mk _ _ _ _ _ _ _ _ kids => ∀ k ∈ kids, WithinDepth n k

theorem eImp_clone (s : Bool) (e : Nat) (i : Imp) : eImp (cloneImp s e i) = eImp i := by
  obtain ⟨src, ref⟩ := i
  cases src <;> cases s <;> rfl

theorem eUnits_clone (s : Bool) (e : Nat) (u : Units) : eUnits (cloneUnits s e u) = eUnits u := by
  simp [eUnits, cloneUnits, eImp_clone]

theorem eVariable_clone (s : Bool) (e : Nat) (v : Variable) : eVariable (cloneVariable s e v) = eVariable v := by
  obtain ⟨ep, id, name, ini, ifc, units⟩ := v
  cases units <;> simp [eVariable, cloneVariable, eUnits_clone]

theorem eVRef_clone (s : Bool) (e : Nat) (r : VRef) : eVRef (cloneVRef s e r) = eVRef r := by
  fun_cases cloneVRef s e r <;> simp [eVRef, eVariable_clone]

theorem eReset_clone (s : Bool) (e : Nat) (r : Reset) : eReset (cloneReset s e r) = eReset r := by
  simp [eReset, cloneReset, eVRef_clone]

theorem eComponent_clone (s : Bool) (e f : Nat) (c : Component) :
    eComponent f (cloneComponent s e f c) = eComponent f c := by
  induction f generalizing c with
  | zero => rfl  -- without fuel nothing is cloned and nothing erased
  | succ f ih =>
    cases c
    simp only [cloneComponent, eComponent, List.map_map, Function.comp_def, eImp_clone, eVariable_clone, eReset_clone, ih]

theorem eVariable_relink (s : Bool) (e : Nat) (mu : List Units) (v : Variable)
    (h : ∀ u, v.units = some u → ∀ m, mu.find? (·.name = u.name) = some m → eUnits m = eUnits u) :
    eVariable (relinkVariable (mu.map (cloneUnits s e)) (cloneVariable s e v)) = eVariable v := by
  fun_cases relinkVariable (mu.map (cloneUnits s e)) (cloneVariable s e v) with
  | case1 cu hcu m hm =>
    -- `cu` clones `v`'s units `u`; cloning keeps names, so the lookup among the cloned units finds the clone of
    -- what the lookup among the original ones finds
    obtain ⟨u, hu, rfl⟩ := Option.map_eq_some_iff.mp hcu
    rw [List.find?_map] at hm
    obtain ⟨m0, hm0, rfl⟩ := Option.map_eq_some_iff.mp hm
    simp [eVariable, cloneVariable, eUnits_clone, hu, h u hu m0 hm0]
  | case2 cu hcu hundef => exact eVariable_clone s e v
  | case3 hnone => exact eVariable_clone s e v

/-! `eps*`: the epochs of all objects of an entity (which calls created them), import sources apart (`impEps`). -/

def impEps (i : Imp) : List Nat := match i.src with | some s => [s.ep] | none => []
def epsUnits (u : Units) : List Nat := [u.ep]
def epsVariable (v : Variable) : List Nat := v.ep :: (match v.units with | some u => epsUnits u | none => [])
def epsVRef : VRef → List Nat
  | .free v => epsVariable v | _ => []
def epsReset (r : Reset) : List Nat := r.ep :: (epsVRef r.var ++ epsVRef r.testVar)
def epsComponent : Nat → Component → List Nat
  | 0, _ => []
  | f+1, .mk ep _ _ _ _ _ vars resets kids =>
    ep :: (vars.flatMap epsVariable ++ resets.flatMap epsReset ++ kids.flatMap (epsComponent f))

def impEpsUnits (u : Units) : List Nat := impEps u.imp
def impEpsVariable (v : Variable) : List Nat := match v.units with | some u => impEpsUnits u | none => []
def impEpsComponent : Nat → Component → List Nat
  | 0, _ => []
  | f+1, .mk _ _ _ _ _ imp vars _ kids =>
    impEps imp ++ vars.flatMap impEpsVariable ++ kids.flatMap (impEpsComponent f)

theorem epsUnits_clone (s : Bool) (e : Nat) (u : Units) : ∀ p ∈ epsUnits (cloneUnits s e u), p = e := by
  simp [epsUnits, cloneUnits]

theorem epsVariable_clone (s : Bool) (e : Nat) (v : Variable) : ∀ p ∈ epsVariable (cloneVariable s e v), p = e := by
  obtain ⟨ep, id, name, ini, ifc, units⟩ := v
  cases units <;> simp [epsVariable, cloneVariable, epsUnits, cloneUnits]

theorem epsVRef_clone (s : Bool) (e : Nat) (r : VRef) : ∀ p ∈ epsVRef (cloneVRef s e r), p = e := by
  cases r with
  | free v => exact epsVariable_clone s e v
  | _ => exact fun _ h => nomatch h

theorem epsReset_clone (s : Bool) (e : Nat) (r : Reset) : ∀ p ∈ epsReset (cloneReset s e r), p = e := by
  simp only [epsReset, cloneReset, List.forall_mem_cons, List.forall_mem_append, true_and]
  exact ⟨epsVRef_clone s e _, epsVRef_clone s e _⟩

theorem epsComponent_clone (s : Bool) (e f : Nat) (c : Component) :
    ∀ p ∈ epsComponent f (cloneComponent s e f c), p = e := by
  induction f generalizing c with
  | zero => exact fun _ h => nomatch h
  | succ f ih =>
    cases c
    simp only [cloneComponent, epsComponent, List.forall_mem_cons, List.forall_mem_append, List.forall_mem_flatMap,
      List.forall_mem_map, true_and]
    exact ⟨⟨fun v _ => epsVariable_clone s e v, fun r _ => epsReset_clone s e r⟩, fun k _ => ih k⟩

theorem impEps_shared (e : Nat) (i : Imp) : impEps (cloneImp true e i) = impEps i := by
  obtain ⟨src, ref⟩ := i
  cases src <;> rfl

theorem impEps_fixed (e : Nat) (i : Imp) : ∀ p ∈ impEps (cloneImp false e i), p = e := by
  obtain ⟨src, ref⟩ := i
  cases src <;> simp [impEps, cloneImp]

end Cellml.Clone
