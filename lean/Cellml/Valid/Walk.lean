/-
  C04 — the traversal of `Validator::validateMathMLElementsChildrenAndSiblings` (arity, sibling and `cn` format rules):
  which children of an element the pass descends into.  The table of branches is regenerated from the source
  (`Cellml/Generated/MathWalk.lean`); here: what a table must satisfy so that no element of an accepted MathML tree
  escapes the pass, and the proof that this is enough.
-/
namespace Cellml.Valid

/-- number of MathML children a branch insists on before it descends (otherwise it reports an issue and stops) -/
inductive Req | any | atLeast (n : Nat) | exactly (n : Nat)
  deriving DecidableEq, Repr

/-- the children a branch descends into -/
inductive Desc | all | idx (l : List Nat)
  deriving DecidableEq, Repr

def Req.holds : Req → Nat → Bool
  | .any, _ => true
  | .atLeast k, n => decide (k ≤ n)
  | .exactly k, n => decide (n = k)

def visited : Desc → Nat → List Nat
  | .all, n => List.range n
  | .idx l, _ => l

/-- a branch descends into every child whenever its requirement holds -/
def covers : Req → Desc → Bool
  | _, .all => true
  | .exactly k, .idx l => l == List.range k
  | _, .idx _ => false

theorem covers_spec (r : Req) (d : Desc) (n : Nat) (hc : covers r d = true) (hr : r.holds n = true) :
    visited d n = List.range n := by
  revert hc
  fun_cases covers r d with
  | case1 => exact fun _ => rfl
  | case2 k l =>
    intro hc
    simp only [Req.holds, decide_eq_true_eq] at hr
    rw [visited, beq_iff_eq.mp hc, hr]
  | case3 => nofun

abbrev Row := String × Req × Desc

/-- the elements that may have MathML element children -/
def containers : List String := ["apply", "piecewise", "piece", "otherwise", "bvar", "degree", "logbase"]

/-- every container has a branch that descends into all of its children -/
def tableCovers (rows : List Row) : Bool :=
  containers.all fun c => rows.any fun r => r.1 == c && covers r.2.1 r.2.2

theorem tableCovers_iff (rows : List Row) :
    tableCovers rows = true ↔ ∀ c ∈ containers, ∃ r ∈ rows, r.1 = c ∧ covers r.2.1 r.2.2 = true := by
  simp only [tableCovers, List.all_eq_true, List.any_eq_true, Bool.and_eq_true, beq_iff_eq]

/-- a MathML tree: element name and element children -/
inductive Tree
  | node (name : String) (kids : List Tree)

def Tree.name : Tree → String | .node n _ => n
def Tree.kids : Tree → List Tree | .node _ k => k

/-- indices of the children of an element `name` with `n` children that the pass descends into: every branch for that
    name whose requirement holds contributes -/
def descended (rows : List Row) (name : String) (n : Nat) : List Nat :=
  (rows.filter fun r => r.1 == name).flatMap fun r => if r.2.1.holds n then visited r.2.2 n else []

/-- the elements the pass reaches -/
inductive Reached (rows : List Row) : Tree → Tree → Prop
  | root (t : Tree) : Reached rows t t
  | step {t : Tree} {name : String} {kids : List Tree} {i : Nat} {k : Tree} :
      Reached rows t (.node name kids) → i ∈ descended rows name kids.length → kids[i]? = some k → Reached rows t k

/-- the subtree relation -/
inductive Sub : Tree → Tree → Prop
  | root (t : Tree) : Sub t t
  | step {t : Tree} {name : String} {kids : List Tree} {k : Tree} : Sub t (.node name kids) → k ∈ kids → Sub t k

/-- no issue about the number of children: every container that is reached meets the requirement of a branch that
    covers it (elements with children that are not containers are rejected by the first pass: MATH_CHILD) -/
def Accepted (rows : List Row) (t : Tree) : Prop :=
  ∀ name kids, Reached rows t (.node name kids) → kids ≠ [] →
    ∃ r ∈ rows, r.1 = name ∧ covers r.2.1 r.2.2 = true ∧ r.2.1.holds kids.length = true

/-- **nothing escapes the pass**: in an accepted tree every element is reached -/
theorem all_reached (rows : List Row) (t : Tree) (ha : Accepted rows t) : ∀ s, Sub t s → Reached rows t s := by
  intro s hs
  induction hs with
  | root => exact .root t
  | @step name kids k _ hk ih =>
    obtain ⟨r, hr, hn, hc, hh⟩ := ha name kids ih (List.ne_nil_of_mem hk)
    obtain ⟨i, hi, hget⟩ := List.getElem_of_mem hk
    refine .step ih ?_ (List.getElem?_eq_some_iff.mpr ⟨hi, hget⟩)
    -- the covering row `r` contributes every index below `kids.length`
    simp only [descended, List.mem_flatMap, List.mem_filter]
    exact ⟨r, ⟨hr, by simp [hn]⟩, by simp [hh, covers_spec _ _ _ hc hh, hi]⟩

end Cellml.Valid
