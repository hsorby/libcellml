/-
  C01 — no input can crash, hang or corrupt the processing pipeline.

  No executable model expresses "no undefined behaviour in C++"; what a theorem can carry is the logic that the crashes of
  this code base came from, and that is what is collected here:

  * **recursion over units terminates** (`walk_terminates`): the guarded walk of `Cellml/Crash/Model.lean` — the scheme
    used by every recursion over unit references — never exhausts the fuel `units.length + 1`, for every model:
    self-references, longer cycles and dangling references included; the unguarded recursion of the pinned tree
    does run out on the smallest cycle whatever the fuel (`unguarded_diverges`);
  * **numeric text never reaches std::stod / std::stoi unguarded**: C16 (`C16_convertToDouble_never_throws`,
    `C16_convertToInt_never_throws`), restated here as `numbers_never_throw`;
  * **the other loops and recursions terminate**: import resolution (C07 `resolve_terminates`), the analyser's
    classification loop (C05 `loop_complete`), the fresh-name search (C06 `fresh_not_used`), restated as
    `pipeline_loops_terminate`.
  Memory safety and the absence of other uncaught exceptions are observed, not proved: `checks/C01.py` runs every public
  stage on hostile inputs (structured mutations and byte damage of generated documents, strict and permissive) in a
  child process, under the address and undefined-behaviour sanitizers at the thorough tier.
-/
import Cellml.Crash.Model
import Cellml.Props.C16
import Cellml.Props.C07
import Cellml.Props.C05
import Cellml.Props.C06
namespace Cellml.Props.C01
open Cellml.Crash

theorem addR_ne_fuel {a b : R} (ha : a ≠ .fuel) (hb : b ≠ .fuel) : addR a b ≠ .fuel := by
  cases a <;> cases b <;> simp_all [addR]

/-- the number of units that are not on the path bounds the depth of the walk -/
theorem walk_ne_fuel (us : Units) : ∀ (n : Nat) (onPath : List String) (name : String),
    ((us.map (·.1)).filter fun u => !onPath.contains u).length < n → walk us n onPath name ≠ .fuel := by
  intro n
  induction n with
  | zero =>
    intro onPath name h
    omega
  | succ n ih =>
    intro onPath name h
    unfold walk
    split
    · nofun
    next hon =>
      split
      · nofun
      next refs hlk =>
        refine List.foldlRecOn (motive := (· ≠ R.fuel)) _ _ nofun fun _ hb r hr => addR_ne_fuel hb ?_
        obtain ⟨ref, _, rfl⟩ := List.mem_map.mp hr
        have := length_filter_not_mem_lt (us.map (·.1)) (List.subset_cons_self name onPath)
          (lookup_mem_keys hlk) (by simpa using hon) (.head _)
        exact ih _ _ (by omega)

/-- **the guarded recursion over unit references terminates** on every model -/
theorem walk_terminates (us : Units) (name : String) : walk us (us.length + 1) [] name ≠ .fuel := by
  apply walk_ne_fuel
  have := List.length_filter_le (fun u => !([] : List String).contains u) (us.map (·.1))
  simp only [List.length_map] at this
  omega

/-- the unguarded recursion runs out of any fuel on units that refer to themselves -/
theorem unguarded_diverges (n : Nat) : walkUnguarded [("a", ["a"])] n "a" = .fuel := by
  induction n with
  | zero => rfl
  | succ n ih =>
    unfold walkUnguarded
    simp [ih, addR]

/-- numeric attribute text and cn content: the guarded conversions never let std::stod / std::stoi throw -/
theorem numbers_never_throw (s : List Char) :
    Cellml.Num.convertToDoubleClass s ≠ .throws ∧ Cellml.Num.convertToIntClass s ≠ .throws :=
  ⟨Cellml.Props.C16.C16_convertToDouble_never_throws s, Cellml.Props.C16.C16_convertToInt_never_throws s⟩

/-- the loops of the later stages: import resolution, the analyser's classification, the fresh-name search -/
theorem pipeline_loops_terminate :
    (∀ (w : Cellml.Import.World) (origin : String) (h : String × String → Nat), Cellml.Import.Ranked w h (Cellml.Import.compBound w) →
      ∀ r ∈ Cellml.Import.resolve w origin, r ≠ .fuel)
    ∧ (∀ s : Cellml.Analyser.St, ∃ r, Cellml.Analyser.loopO (Cellml.Analyser.fuelFor s) s 1 false = some r)
    ∧ (∀ (used : List String) (base : String), ¬ Cellml.Flatten.fresh used base ∈ used) :=
  ⟨Cellml.Props.C07.resolve_terminates,
   fun s => let ⟨r, h, _⟩ := Cellml.Props.C05.loop_complete s; ⟨r, h⟩,
   Cellml.Props.C06.fresh_not_used⟩

example : walk [("a", ["a"]), ("b", ["c", "x"]), ("c", ["d"]), ("d", ["b", "a"])] 5 [] "b" = .done 4 := by decide +kernel

end Cellml.Props.C01
