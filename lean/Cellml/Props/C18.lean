/-
  C18 — variable-equivalence queries agree with the connection graph: property theorems.
-/
import Cellml.Equiv.Dfs
import Cellml.Equiv.Cache
namespace Cellml.Props.C18
open Cellml.Equiv

/-- well-formed graph: `n` variables, equivalence lists stay inside and are symmetric
    (what `Variable::addEquivalence` maintains; C09 owns that invariant) -/
structure Graph (adj : Nat → List Nat) (n : Nat) : Prop where
  closed : ∀ v, v < n → ∀ w ∈ adj v, w < n
  symm : ∀ a b, b ∈ adj a → a ∈ adj b

/-- C18-1a: `v->hasEquivalentVariable(w, true)` ⇔ `v ≠ w` and a chain of equivalences links them -/
theorem C18_hasEquivalentVariable (adj : Nat → List Nat) (n : Nat) (g : Graph adj n) (v w : Nat) (hw : w < n) :
    hasEq adj n v w = true ↔ v ≠ w ∧ Reach adj v w := by
  rw [hasEq_iff adj n g.closed v w hw, Reach.comm g.symm]

/-- C18-1b: the uncached `areEquivalentVariables(v1, v2)` ⇔ linked by a chain (the same variable included) -/
theorem C18_areEquivalentVariables (adj : Nat → List Nat) (n : Nat) (g : Graph adj n) (v1 v2 : Nat) (h2 : v2 < n) :
    areEq adj n v1 v2 = true ↔ Reach adj v1 v2 := by
  rw [areEq_iff adj n g.closed v1 v2 h2, Reach.comm g.symm]

/-- C18-1c: the query itself behaves as an equivalence relation on the model's variables: the answer does
    not depend on which variable is asked about which, and answers compose along chains -/
theorem C18_areEq_refl (adj : Nat → List Nat) (n : Nat) (g : Graph adj n) (v : Nat) (hv : v < n) :
    areEq adj n v v = true := (C18_areEquivalentVariables adj n g v v hv).mpr (Reach.refl v)

theorem C18_areEq_symm (adj : Nat → List Nat) (n : Nat) (g : Graph adj n) (v w : Nat) (hv : v < n) (hw : w < n) :
    areEq adj n v w = areEq adj n w v := by
  rw [Bool.eq_iff_iff, C18_areEquivalentVariables adj n g v w hw, C18_areEquivalentVariables adj n g w v hv,
    Reach.comm g.symm]

theorem C18_areEq_trans (adj : Nat → List Nat) (n : Nat) (g : Graph adj n) (u v w : Nat) (hv : v < n) (hw : w < n)
    (h1 : areEq adj n u v = true) (h2 : areEq adj n v w = true) : areEq adj n u w = true :=
  (C18_areEquivalentVariables adj n g u w hw).mpr
    (Reach.trans ((C18_areEquivalentVariables adj n g u v hv).mp h1) ((C18_areEquivalentVariables adj n g v w hw).mp h2))

theorem C18_hasEq_symm (adj : Nat → List Nat) (n : Nat) (g : Graph adj n) (v w : Nat) (hv : v < n) (hw : w < n) :
    hasEq adj n v w = hasEq adj n w v := by
  rw [Bool.eq_iff_iff, C18_hasEquivalentVariable adj n g v w hw, C18_hasEquivalentVariable adj n g w v hv,
    Reach.comm g.symm, ne_comm]

/-- the two queries agree away from the diagonal -/
theorem C18_hasEq_eq_areEq (adj : Nat → List Nat) (n : Nat) (g : Graph adj n) (v w : Nat) (hw : w < n) (hne : v ≠ w) :
    hasEq adj n v w = areEq adj n v w := by
  rw [Bool.eq_iff_iff, C18_hasEquivalentVariable adj n g v w hw, C18_areEquivalentVariables adj n g v w hw]
  exact ⟨fun h => h.2, fun h => ⟨hne, h⟩⟩

/-- C18-2: `AnalyserModel::areEquivalentVariables` with the current key.  Whatever the addresses of the
    variables (distinct objects have distinct addresses), whatever the order of the queries and however
    often they are repeated, starting from the empty cache every answer is the connectivity of the pair. -/
theorem C18_cached_queries (adj : Nat → List Nat) (n : Nat) (g : Graph adj n) (addr : Nat → BitVec 64)
    (hinj : ∀ a b, a < n → b < n → addr a = addr b → a = b)
    (qs : List (Nat × Nat)) (hq : ∀ q ∈ qs, q.1 < n ∧ q.2 < n) :
    runQueries (fun a b => pairKey (addr a) (addr b)) (areEq adj n) [] qs = qs.map (fun q => areEq adj n q.1 q.2) := by
  apply runQueries_correct (dom := fun v => v < n)
  · exact pairKey_ok _ addr hinj _ (C18_areEq_symm adj n g)
  · exact fun _ _ h => nomatch h
  · exact hq

/-- … and therefore true exactly for linked pairs -/
theorem C18_cached_iff (adj : Nat → List Nat) (n : Nat) (g : Graph adj n) (addr : Nat → BitVec 64)
    (hinj : ∀ a b, a < n → b < n → addr a = addr b → a = b)
    (qs : List (Nat × Nat)) (hq : ∀ q ∈ qs, q.1 < n ∧ q.2 < n) (i : Nat) (hi : i < qs.length) :
    (runQueries (fun a b => pairKey (addr a) (addr b)) (areEq adj n) [] qs)[i]? = some true ↔
      Reach adj qs[i].1 qs[i].2 := by
  rw [C18_cached_queries adj n g addr hinj qs hq]
  have hm := hq qs[i] (List.getElem_mem hi)
  simp only [List.getElem?_map, List.getElem?_eq_getElem hi, Option.map_some, Option.some.injEq]
  exact C18_areEquivalentVariables adj n g _ _ hm.2

/-! ### the superseded Cantor key (repaired by `fix: key the equivalent-variables cache by the pair of
    addresses`): kernel-checked collision on four 16-byte aligned user-space addresses within 48 KiB,
    and the wrong answer it produces.  Kept so that a revert of the fix is recognised. -/

def wa : BitVec 64 := 0x7a62007a0200#64
def wb : BitVec 64 := 0x7a62007a7f10#64
def wc : BitVec 64 := 0x7a62007a4ad0#64
def wd : BitVec 64 := 0x7a62007abc20#64

theorem C18_cantor64_collision :
    cantor64 wa wb = cantor64 wc wd ∧ (wa, wb) ≠ (wc, wd) ∧ (wa, wb) ≠ (wd, wc)
    ∧ wa % 16 = 0 ∧ wb % 16 = 0 ∧ wc % 16 = 0 ∧ wd % 16 = 0
    ∧ wa < 0x800000000000#64 ∧ wd < 0x800000000000#64 ∧ wd - wa < 0x10000#64 := by
  decide

/-- four variables, 0 ~ 1 equivalent, 2 and 3 unrelated -/
def wAdj : Nat → List Nat
  | 0 => [1] | 1 => [0] | _ => []
def wAddr : Nat → BitVec 64
  | 0 => wa | 1 => wb | 2 => wc | _ => wd

/-- with the Cantor key the query history [(0,1), (2,3)] answers `true` for the unrelated pair -/
theorem C18_cantor64_wrong_answer :
    runQueries (fun a b => cantor64 (wAddr a) (wAddr b)) (areEq wAdj 4) [] [(0, 1), (2, 3)] = [true, true] ∧
    [(0, 1), (2, 3)].map (fun q => areEq wAdj 4 q.1 q.2) = [true, false] := by decide

/-- the same history with the current key is right (instance of C18-2, evaluated) -/
theorem C18_pair_right_answer :
    runQueries (fun a b => pairKey (wAddr a) (wAddr b)) (areEq wAdj 4) [] [(0, 1), (2, 3), (1, 0), (2, 3)] =
      [true, false, true, false] := by decide

/-! non-vacuity: a concrete graph meeting the hypotheses (chain 0–1–2 and an isolated 3) -/
def exAdj : Nat → List Nat
  | 0 => [1] | 1 => [0, 2] | 2 => [1] | _ => []
example : Graph exAdj 4 := by
  refine ⟨by decide, fun a => ?_⟩
  match a with
  | 0 | 1 | 2 => decide
  | (k+3) =>
    intro b h
    cases h
example : hasEq exAdj 4 0 2 = true ∧ hasEq exAdj 4 0 3 = false ∧ hasEq exAdj 4 1 1 = false ∧ areEq exAdj 4 1 1 = true := by decide

end Cellml.Props.C18
