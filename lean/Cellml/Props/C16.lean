/-
  C16 — property theorems (only statements that decide the property live here).

  "A string is accepted as a CellML real exactly when …, and as a CellML integer exactly when …;
   conversion never throws."
-/
import Cellml.Num.Conversions
import Cellml.Num.Positions
namespace Cellml.Props.C16
open Cellml.Num

/-- C16-1: the real recogniser of the current tree accepts exactly the grammar of the statement. -/
theorem C16_real_iff (s : List Char) : cellmlReal s = true ↔ SpecReal s := cellmlReal_iff s

/-- C16-2: the integer recogniser accepts exactly optional sign + one or more digits. -/
theorem C16_int_iff (s : List Char) : cellmlInt s = true ↔ SpecInt s := cellmlInt_iff s

/-- C16-3a (independent of the code): every CellML real satisfies `std::stod`'s precondition. -/
theorem C16_spec_no_throw (s : List Char) (h : SpecReal s) : stodAccepts s = true :=
  stodAccepts_of_specReal h

/-- C16-3b: every CellML integer satisfies `std::stoi`'s precondition. -/
theorem C16_spec_int_no_throw (s : List Char) (h : SpecInt s) : stoiAccepts s = true :=
  stoiAccepts_of_specInt h

/-- C16-3: `convertToDouble` never throws `std::invalid_argument`, whatever the text. -/
theorem C16_convertToDouble_never_throws (s : List Char) : convertToDoubleClass s ≠ .throws := by
  rw [convertToDoubleClass_eq]
  split <;> exact Conv.noConfusion

/-- C16-3: `convertToInt` never throws. -/
theorem C16_convertToInt_never_throws (s : List Char) : convertToIntClass s ≠ .throws := by
  rw [convertToIntClass_eq]
  split <;> exact Conv.noConfusion

/-- accepted ⇔ converted-or-range-checked; rejected ⇔ the caller reports an issue -/
theorem C16_convert_class (s : List Char) :
    (SpecReal s → convertToDoubleClass s = .converts) ∧ (¬ SpecReal s → convertToDoubleClass s = .rejected) := by
  rw [convertToDoubleClass_eq]
  exact ⟨fun h => if_pos ((cellmlReal_iff s).mpr h), fun h => if_neg (mt (cellmlReal_iff s).mp h)⟩

example : SpecReal "-12.5E+3".toList := (cellmlReal_iff _).mp (by decide +kernel)
example : SpecReal ".5".toList ∧ SpecReal "5.".toList := ⟨(cellmlReal_iff _).mp (by decide), (cellmlReal_iff _).mp (by decide)⟩
example : ¬ SpecReal "+1".toList := fun h => absurd ((cellmlReal_iff _).mpr h) (by decide)
example : ¬ SpecReal "1e".toList := fun h => absurd ((cellmlReal_iff _).mpr h) (by decide)
example : SpecInt "+007".toList := (cellmlInt_iff _).mp (by decide)
example : ¬ SpecInt "-".toList := fun h => absurd ((cellmlInt_iff _).mpr h) (by decide)

/-! #### the superseded recogniser: kernel-checked witnesses of the defect repaired by
    `fix: require a digit in isCellMLBasicReal`.  Kept so that a revert of the fix is recognised. -/

theorem C16_pinned_real_refuted :
    cellmlRealWith false ['-'] = true ∧ cellmlRealWith false ['.'] = true ∧
    cellmlRealWith false ['-', '.'] = true ∧ cellmlRealWith false "-.e1".toList = true := by decide +kernel

theorem C16_pinned_throws : convertToDoubleClassWith false ['-'] = .throws ∧
    convertToDoubleClassWith false "-.e1".toList = .throws := by decide +kernel

theorem C16_pinned_not_spec : ¬ SpecReal ['-'] ∧ ¬ SpecReal ['.'] ∧ ¬ SpecReal ['-', '.'] := by
  refine ⟨?_, ?_, ?_⟩ <;> exact fun h => absurd ((cellmlReal_iff _).mpr h) (by decide)

/-- exponent / multiplier of a unit: no issue ⇔ CellML real within the range of `double` -/
theorem C16_pos_real (sp : List (List Char)) (s : List Char) :
    (issueAt sp .exponent s = false ↔ SpecReal s ∧ doubleInRange s = true) ∧
    (issueAt sp .multiplier s = false ↔ SpecReal s ∧ doubleInRange s = true) := by
  simp only [issueAt, realOK, Bool.not_eq_false', Bool.and_eq_true, cellmlReal_iff, and_self]

/-- reset order and the exponent part of an e-notation `cn`: no issue ⇔ CellML integer within `int` -/
theorem C16_pos_int (sp : List (List Char)) (s : List Char) :
    (issueAt sp .order s = false ↔ SpecInt s ∧ intInRange s = true) ∧
    (issueAt sp .cnExponent s = false ↔ SpecInt (trim s) ∧ intInRange (trim s) = true) := by
  simp only [issueAt, intOK, Bool.not_eq_false', Bool.and_eq_true, cellmlInt_iff, and_self]

/-- `cn` content (plain and the mantissa of e-notation): no issue ⇔ basic real within range, white space trimmed -/
theorem C16_pos_cn (sp : List (List Char)) (s : List Char) :
    (issueAt sp .cnReal s = false ↔ SpecBasicReal (trim s) ∧ doubleInRange (trim s) = true) ∧
    (issueAt sp .cnMantissa s = false ↔ SpecBasicReal (trim s) ∧ doubleInRange (trim s) = true) := by
  simp only [issueAt, basicRealOK, Bool.not_eq_false', Bool.and_eq_true, basicReal_iff, and_self]

/-- prefix: no issue ⇔ empty, an SI prefix name, or a CellML integer within `int` -/
theorem C16_pos_prefix (sp : List (List Char)) (s : List Char) :
    issueAt sp .pfx s = false ↔ s = [] ∨ s ∈ sp ∨ (SpecInt s ∧ intInRange s = true) := by
  simp only [issueAt, intOK, Bool.and_eq_false_iff, Bool.not_eq_false', List.isEmpty_iff, List.contains_iff_mem,
    Bool.and_eq_true, cellmlInt_iff, or_assoc]

/-- initial value: no issue ⇔ empty or a CellML real (a reference to a variable is decided before the number test) -/
theorem C16_pos_initial (sp : List (List Char)) (s : List Char) :
    issueAt sp .initialValue s = false ↔ s = [] ∨ SpecReal s := by
  simp only [issueAt, Bool.and_eq_false_iff, Bool.not_eq_false', List.isEmpty_iff, cellmlReal_iff]

example : issueAt [] .cnExponent " 2147483648 ".toList = true ∧ issueAt [] .cnExponent " -2147483648".toList = false := by decide +kernel
example : issueAt ["kilo".toList] .pfx "kilo".toList = false ∧ issueAt ["kilo".toList] .pfx "kil".toList = true := by decide +kernel

/-- C16: "an optional *minus* sign" — no text that starts with `+` is a CellML real, although it may
    be a CellML integer (`+007`). -/
theorem C16_real_no_plus (s : List Char) : ¬ SpecReal ('+' :: s) := by
  rintro (h | ⟨sig, e, ex, _, hs, hsig, _⟩)
  · exact not_specBasicReal_plus h
  · obtain ⟨hne, hhead⟩ := basicReal_head sig hsig
    cases sig with
    | nil => exact hne rfl
    | cons x xs =>
      cases hs
      exact hhead rfl

theorem C16_real_no_plus_code (s : List Char) : cellmlReal ('+' :: s) = false :=
  Bool.eq_false_iff.mpr (mt (cellmlReal_iff _).mp (C16_real_no_plus s))

/-- every CellML integer without a `+` sign is also a CellML real (reset orders, prefixes and
    exponents written as integers are read the same way where a real is expected). -/
theorem C16_int_is_real (s : List Char) (h : SpecInt s) (hp : s.head? ≠ some '+') : SpecReal s := by
  obtain ⟨sign, ds, hs, rfl, hne, hall⟩ := h
  have hm : SpecMantissa ds := by
    obtain ⟨x, hx⟩ := List.exists_mem_of_ne_nil ds hne
    refine ⟨fun c hc => Or.inl (hall c hc), ?_, x, hx, hall x hx⟩
    rw [List.count_eq_zero.mpr fun hc => absurd (hall '.' hc) (by decide)]
    exact Nat.zero_le 1
  rcases hs with rfl | rfl | rfl
  · exact Or.inl ⟨[], ds, Or.inl rfl, rfl, hm⟩
  · exact Or.inl ⟨['-'], ds, Or.inr rfl, rfl, hm⟩
  · exact absurd rfl hp

theorem C16_int_is_real_code (s : List Char) (h : cellmlInt s = true) (hp : s.head? ≠ some '+') :
    cellmlReal s = true :=
  (cellmlReal_iff s).mpr (C16_int_is_real s ((cellmlInt_iff s).mp h) hp)

example : SpecInt "+007".toList ∧ ¬ SpecReal "+007".toList :=
  ⟨(cellmlInt_iff _).mp (by decide), C16_real_no_plus _⟩

end Cellml.Props.C16
