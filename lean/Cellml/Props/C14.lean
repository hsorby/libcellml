/-
  C14 — CellML 1.0 / 1.1 documents are faithfully transformed: property theorems for the decision logic.
  The transformation itself (namespace surgery, group / relationship_ref, map_components, hoisting of units, cmeta:id)
  is checked on the implementation: generated 2.0 documents are mechanically rewritten to 1.0 / 1.1 syntax and the
  permissive parse of the rewriting is compared with the strict parse of the original (`checks/C14.py`).
-/
import Cellml.Legacy.Model
import Cellml.Legacy.GroupLemmas
import Cellml.Lists
namespace Cellml.Props.C14
open Cellml.Legacy

theorem step_flags (cur : Iface) (a : Bool × String) :
    (step cur a).hasPub = (cur.hasPub || (a.1 && a.2 ≠ "none"))
      ∧ (step cur a).hasPriv = (cur.hasPriv || (!a.1 && a.2 ≠ "none")) := by
  obtain ⟨b, s⟩ := a
  by_cases h : s = "none"
  · simp [step, h]
  · rw [step, if_neg h, decide_eq_true h]
    cases cur <;> cases b <;> exact ⟨rfl, rfl⟩

/-- the merged interface is public exactly when some `public_interface` attribute has a value other than "none",
    private exactly when some `private_interface` has — whatever the order of the attributes -/
theorem merge_spec (attrs : List (Bool × String)) :
    (merge attrs).hasPub = attrs.any (fun a => a.1 && a.2 ≠ "none")
      ∧ (merge attrs).hasPriv = attrs.any (fun a => !a.1 && a.2 ≠ "none") :=
  ⟨foldl_or step Iface.hasPub _ (fun s a => (step_flags s a).1) .none attrs,
    foldl_or step Iface.hasPriv _ (fun s a => (step_flags s a).2) .none attrs⟩

theorem iface_ext (a b : Iface) (h1 : a.hasPub = b.hasPub) (h2 : a.hasPriv = b.hasPriv) : a = b := by
  have key : ∀ x : Iface,
      x = if x.hasPub then (if x.hasPriv then .both else .pub) else (if x.hasPriv then .priv else .none) := by
    intro x
    cases x <;> rfl
  rw [key a, key b, h1, h2]

/-- **order independence** of the merge -/
theorem merge_perm (l l' : List (Bool × String)) (h : l.Perm l') : merge l = merge l' := by
  apply iface_ext
  · rw [(merge_spec l).1, (merge_spec l').1]
    exact h.any_eq
  · rw [(merge_spec l).2, (merge_spec l').2]
    exact h.any_eq

/-- the rewriting of a 2.0 interface into 1.x attributes is inverted by the merge (for every direction value) -/
theorem merge_of_rewrite (d1 d2 : String) (h1 : d1 ≠ "none") (h2 : d2 ≠ "none") :
    merge [] = .none ∧ merge [(true, "none"), (false, "none")] = .none
      ∧ merge [(true, d1)] = .pub ∧ merge [(true, d1), (false, "none")] = .pub
      ∧ merge [(false, d2)] = .priv ∧ merge [(true, "none"), (false, d2)] = .priv
      ∧ merge [(true, d1), (false, d2)] = .both ∧ merge [(false, d2), (true, d1)] = .both := by
  simp [merge, step, h1, h2, Iface.hasPub, Iface.hasPriv]

example : merge [(true, "none"), (false, "in")] = .priv := by decide
example : merge [(false, "out"), (true, "in")] = .both := by decide

/-- a group is an encapsulation group exactly when some `relationship_ref` says so … -/
theorem encapsulation_iff (refs : List (Option String)) :
    isEncapsulation refs = true ↔ some "encapsulation" ∈ refs := by
  simp [isEncapsulation]

/-- … wherever that `relationship_ref` stands among the others -/
theorem encapsulation_perm (l l' : List (Option String)) (h : l.Perm l') : isEncapsulation l = isEncapsulation l' :=
  h.any_eq

theorem encapsulation_append (l l' : List (Option String)) :
    isEncapsulation (l ++ l') = (isEncapsulation l || isEncapsulation l') := by
  simp [isEncapsulation]

example : isEncapsulation [some "containment", some "encapsulation", none] = true := by decide
example : isEncapsulation [some "containment", some "Encapsulation"] = false := by decide

theorem respell_fixes : respell "liter" = "litre" ∧ respell "meter" = "metre" ∧ respell "litre" = "litre" ∧ respell "metre" = "metre" := by
  decide

theorem respell_idem (u : String) : respell (respell u) = respell u := by
  obtain ⟨hl, hm, hl', hm'⟩ := respell_fixes
  by_cases h1 : u = "liter"
  · rw [h1, hl, hl']
  by_cases h2 : u = "meter"
  · rw [h2, hm, hm']
  have : respell u = u := by simp [respell, h1, h2]
  rw [this, this]

/-- the strict parser refuses every 1.x document; the permissive one loads 1.0, 1.1 and 2.0 -/
theorem gate : loads true .v10 = false ∧ loads true .v11 = false ∧ loads true .v20 = true
    ∧ loads false .v10 = true ∧ loads false .v11 = true ∧ loads false .v20 = true ∧ ∀ s, loads s .other = false := by
  refine ⟨rfl, rfl, rfl, rfl, rfl, rfl, fun s => rfl⟩

/-- the hierarchy loaded from all the groups of a 1.x document (fix 24b05bd) is exactly the set of (child, parent) pairs
    they state — provided no component is given a parent twice -/
theorem groups_spec (ops : List GOp) (hnd : (children ops).Nodup) (c p : String) :
    grun true ops c = some p ↔ GOp.set c p ∈ ops := by
  simp [grun, foldl_gstep_eq_some_iff ops c p hnd]

/-- … so it does not matter how the pairs are dealt out to groups, nor in which order the groups stand -/
theorem groups_dealing_irrelevant (ops ops' : List GOp) (hnd : (children ops).Nodup) (hnd' : (children ops').Nodup)
    (h : ∀ c p, GOp.set c p ∈ ops ↔ GOp.set c p ∈ ops') : grun true ops = grun true ops' :=
  funext fun c => Option.ext fun p => by rw [groups_spec ops hnd, groups_spec ops' hnd', h]

/-- the hierarchy `a ⊃ {d, b ⊃ c}` written as one group or as two gives the same parents … -/
theorem groups_example : ∀ x ∈ ["a", "b", "c", "d"], grun true exOne x = grun true exTwo x := by decide

/-- … whereas before the repair (the component of a top-level component_ref went back to the model) the second group
    took `b` away from `a` -/
theorem groups_before_repair : grun false exTwo "b" = none ∧ grun true exTwo "b" = some "a" := by decide

end Cellml.Props.C14
