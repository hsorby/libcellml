/-
  C17 — generated code's declared structure matches the analysed model: property theorems.

  Model: `Cellml/Struct/Model.lean` (counts, info entries, buffer sizes, helper emission) over the expression model
  of C03; tied to the real generator by engine `struct` (predicted counts / sizes / entries / helpers against the
  parsed generated text and the AnalyserModel accessors) and by the regenerated method-string table
  (`Cellml/Generated/Methods.lean`).
-/
import Cellml.Struct.Proofs
import Cellml.Generated.NeedFlags
import Cellml.Generated.Profiles
import Cellml.Generated.Methods
import Cellml.Lists
namespace Cellml.Props.C17
open Cellml.Gen Cellml.Struct

/-- every entry of the info tables (voi, states, variables) fits the declared buffers, terminator included -/
theorem entries_fit (m : AModel) : ∀ v ∈ infoVars m,
    v.comp.utf8ByteSize < (sizes m).comp ∧ v.name.utf8ByteSize < (sizes m).name ∧ v.units.utf8ByteSize < (sizes m).units := by
  intro v hv
  rw [sizes, foldl_upd]
  obtain ⟨_, hcomp, _⟩ := foldl_max (·.comp.utf8ByteSize + 1) (vs := infoVars m) (a := 0) rfl
  obtain ⟨_, hname, _⟩ := foldl_max (·.name.utf8ByteSize + 1) (vs := infoVars m) (a := 0) rfl
  obtain ⟨_, hunits, _⟩ := foldl_max (·.units.utf8ByteSize + 1) (vs := infoVars m) (a := 0) rfl
  -- `size + 1 ≤ m` is `size < m` unfolded
  exact ⟨hcomp v hv, hname v hv, hunits v hv⟩

/-- the declared size of the name buffer is not larger than needed: it is zero or attained by some entry -/
theorem name_size_tight (m : AModel) : (sizes m).name = 0 ∨ ∃ v ∈ infoVars m, (sizes m).name = v.name.utf8ByteSize + 1 := by
  rw [sizes, foldl_upd]
  obtain ⟨_, _, htight⟩ := foldl_max (·.name.utf8ByteSize + 1) (vs := infoVars m) (a := 0) rfl
  exact htight

theorem state_entry (m : AModel) (i : Nat) : (stateEntries m)[i]? = (m.states[i]?).map entry := by
  simp [stateEntries]
theorem variable_entry (m : AModel) (i : Nat) : (variableEntries m)[i]? = (m.vars[i]?).map entry := by
  simp [variableEntries]
theorem counts (m : AModel) : (stateEntries m).length = stateCount m ∧ (variableEntries m).length = variableCount m := by
  simp [stateEntries, variableEntries, stateCount, variableCount]

/-- every method declared in the interface is the header of its implementation followed by `;`, for each of the
    (differential model, external variables) cases -/
theorem methods_paired :
    Cellml.Generated.Methods.methods.all (fun m => m.2.2.2.1 == m.2.2.2.2.2.1 ++ ";\n") = true := by decide +kernel

/-- the implementation string of a method is its header, an opening brace line, and the body -/
theorem methods_split :
    Cellml.Generated.Methods.methods.all (fun m => m.2.2.2.2.1 == m.2.2.2.2.2.1 ++ "\n{\n" ++ m.2.2.2.2.2.2) = true := by decide +kernel

/-- no call of an undefined function: whatever the generated expressions of a set of equations call is a
    math-library function or one of the emitted helpers (when the profile has a body for every helper it may need) -/
theorem helpers_defined (p : Profile) (hasBody : Helper → Bool) (hb : ∀ h, hasBody h = true) (asts : List Ast) :
    ∀ t ∈ asts, ∀ f ∈ calledFns (genDoc p t), f ∈ builtins p ∨ ∃ h ∈ emitted p hasBody asts, fname p h = f :=
  fun _ ht => calls_defined (fun h _ => hb h) ht

/-- both built-in profiles have a body for every helper they do not write as an operator -/
theorem bodies_C : ∀ h, Cellml.Generated.Methods.hasBodyC h = true ∨ hasOp Cellml.Generated.Profiles.profC h = true := by
  intro h; cases h <;> decide
theorem bodies_Py : ∀ h, Cellml.Generated.Methods.hasBodyPy h = true := by
  intro h; cases h <;> decide

/-- emitted only if needed: an emitted helper has its need-flag set by some equation and is not an operator -/
theorem emitted_needed (p : Profile) (hasBody : Helper → Bool) (asts : List Ast) :
    ∀ h ∈ emitted p hasBody asts, (∃ t ∈ asts, h ∈ needsOf t) ∧ hasOp p h = false := by
  intro h hh
  have ⟨hn, ho, _⟩ := mem_emitted.mp hh
  exact ⟨hn, ho⟩

example : entries_fit ⟨true, [⟨"t", "second", "env", 0⟩], [⟨"x", "mV", "membrane", 1⟩], []⟩ = entries_fit _ := rfl
example : sizes ⟨true, [⟨"t", "second", "env", 0⟩], [⟨"x", "mV", "membrane", 1⟩], []⟩ = ⟨9, 2, 7⟩ := by decide +kernel
example : emitted Cellml.Generated.Profiles.profC Cellml.Generated.Methods.hasBodyC
    [.node .AND (.node .MIN (.ci "a") (.ci "b")) (.node .SEC (.ci "a") .nul)] = [.min, .sec] := by decide +kernel
example : emitted Cellml.Generated.Profiles.profPy Cellml.Generated.Methods.hasBodyPy
    [.node .AND (.node .MIN (.ci "a") (.ci "b")) (.node .SEC (.ci "a") .nul)] = [.and, .min, .sec] := by decide +kernel

/-- the flag that belongs to a MathML element: `sec` ↦ `Sec`, `arccoth` ↦ `Acoth` -/
def flagOf (e : String) : String :=
  let b := if e.startsWith "arc" then "a" ++ (e.drop 3).toString else e
  b.capitalize

/-- T-tie: meeting element `e` sets the flag of `e`; the accessor `need<X>Function` returns flag `X`; the generator emits
    the profile string of `X` when it tests accessor `X`; and the three tables speak about the same flags in the same
    order — so a helper is emitted exactly for the elements that need it (no crossed wire such as `needAcothFunction`
    returning the `acot` flag) -/
theorem need_flags_wired :
    (∀ p ∈ Cellml.Generated.NeedFlags.setters, p.2 = flagOf p.1)
      ∧ (∀ p ∈ Cellml.Generated.NeedFlags.accessors, p.1 = p.2)
      ∧ (∀ p ∈ Cellml.Generated.NeedFlags.emitters, p.2 = p.1.decapitalize)
      ∧ Cellml.Generated.NeedFlags.setters.map (·.2) = Cellml.Generated.NeedFlags.accessors.map (·.1)
      ∧ Cellml.Generated.NeedFlags.accessors.map (·.1) = Cellml.Generated.NeedFlags.emitters.map (·.1)
      ∧ (Cellml.Generated.NeedFlags.accessors.map (·.1)).Nodup := by
  decide +kernel

example : flagOf "arccoth" = "Acoth" ∧ flagOf "min" = "Min" := by decide +kernel

end Cellml.Props.C17
