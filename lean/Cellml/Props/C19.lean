/-
  C19 — model repair helpers establish what they promise: property theorems.
  Model: `Cellml/Repair/Model.lean`, tied by engine `repair`.
-/
import Cellml.Repair.Model
import Cellml.Lists
namespace Cellml.Props.C19
open Cellml.Repair

def Bad (r : Rel) : Prop := r = .unreachable ∨ r = .parentless

theorem required_none_iff : ∀ (rels : List Rel) (acc : Bool × Bool),
    required false acc rels = none ↔ ∃ r ∈ rels, Bad r := by
  intro rels
  induction rels with
  | nil =>
    intro acc
    simp [required]
  | cons r rs ih =>
    intro acc
    have hcons : (∃ x ∈ r :: rs, Bad x) ↔ Bad r ∨ ∃ x ∈ rs, Bad x := by simp
    rw [hcons]
    -- by definition: `none` for the two bad relations, `required false _ rs` for the others
    cases r with
    | unreachable => exact iff_of_true rfl (.inl (.inl rfl))
    | parentless => exact iff_of_true rfl (.inl (.inr rfl))
    | _ => exact (ih _).trans (or_iff_right nofun).symm

/-- a flag once set stays set, and every relation that is not `Bad` sets one -/
theorem required_or : ∀ (rels : List Rel) (acc res : Bool × Bool), required false acc rels = some res →
    (acc.1 || acc.2) = true ∨ rels ≠ [] → (res.1 || res.2) = true := by
  intro rels
  induction rels with
  | nil =>
    intro acc res h
    cases h
    simp
  | cons r rs ih =>
    intro acc res h _
    -- for the two bad relations `h` reads `none = some res`; for the others it is about `rs` with a flag set
    cases r with
    | unreachable | parentless => cases h
    | _ => exact ih _ _ h (Or.inl (by simp))

theorem determine_none_iff (rels : List Rel) (hne : rels ≠ []) :
    determine false rels = .none_ ↔ ∃ r ∈ rels, Bad r := by
  unfold determine
  cases h : required false (false, false) rels with
  | none => simp [(required_none_iff rels _).mp h]
  | some res =>
    have hno : ¬ ∃ r ∈ rels, Bad r := by
      intro hb
      rw [(required_none_iff rels _).mpr hb] at h
      cases h
    -- (false, false) with a non-empty list of good relations is impossible
    have hor := required_or rels _ _ h (Or.inr hne)
    obtain ⟨a, b⟩ := res
    cases a with
    | true => cases b <;> simp [hno]
    | false =>
      cases b with
      | true => simp [hno]
      | false => simp at hor

theorem isInfix_self (l : List Char) : isInfix l l = true := by
  cases l with
  | nil => rfl
  | cons c cs => simp [isInfix]

theorem compatible_of_permits (iface : String) (t : IType) (ht : t ≠ .none_) (hp : permits iface t = true) :
    isInfix t.str.toList iface.toList = true := by
  simp only [permits, Bool.or_eq_true, decide_eq_true_eq] at hp
  rcases hp with (h | rfl) | rfl
  · exact absurd h ht
  · cases t with
    | none_ => exact absurd rfl ht
    | pub => decide +kernel
    | priv => decide +kernel
    | both => exact isInfix_self _
  · exact isInfix_self _

/-- the rels (the model structure) are never touched, only interface strings -/
theorem C19_fix_keeps_structure (v : Var) : (fixVar false v).1.rels = v.rels := by
  fun_cases fixVar false v <;> rfl

/-- `fixVar`'s branches, `t` the required type: 1 `t = .none_`; 2 the interface does not permit `t` and is overwritten;
    3 it permits `t` and is kept -/
theorem fixVar_snd (e : Bool) (v : Var) : (fixVar e v).2 = true ↔ determine e v.rels ≠ .none_ := by
  fun_cases fixVar e v with
  | case1 t h => exact iff_of_false nofun (not_not_intro h)
  | case2 t h _ | case3 t h _ => exact iff_of_true rfl h

theorem fixVar_permits (e : Bool) (v : Var) : permits (fixVar e v).1.iface (determine e v.rels) = true := by
  fun_cases fixVar e v with
  | case1 t h => simp [permits, t, h]
  | case2 t _ _ => simp [permits, t]
  | case3 t _ hp => simpa using hp

/-- C19-1: after `fixVariableInterfaces`, a variable whose equivalences are all reachable raises no interface issue
    in the validator (whatever string its interface attribute held before), whether or not the call returns true -/
theorem C19_fixed_variable_validates (v : Var) (h : determine false v.rels ≠ .none_) :
    validatorIssue false (fixVar false v).1 = false := by
  simp only [validatorIssue, C19_fix_keeps_structure, if_neg h]
  simp [compatible_of_permits _ _ h (fixVar_permits false v)]

/-- C19-1': when it returns true, no variable with equivalences raises an interface issue -/
theorem C19_fix_true_validates (vs : List Var) (hne : ∀ v ∈ vs, v.rels ≠ []) (h : (fixAll false vs).2 = true) :
    ∀ v' ∈ (fixAll false vs).1, validatorIssue false v' = false := by
  -- `hne` is not needed: `fixVar` reports success only when the interface it leaves suffices
  simp only [fixAll, List.map_map, List.mem_map, List.all_map, List.all_eq_true, Function.comp] at h ⊢
  rintro _ ⟨v, hv, rfl⟩
  exact C19_fixed_variable_validates v ((fixVar_snd false v).mp (h v hv))

/-- C19-2: a variable whose interface already sufficed is left unchanged -/
theorem C19_sufficient_unchanged (v : Var) (hp : permits v.iface (determine false v.rels) = true) :
    (fixVar false v).1 = v := by
  fun_cases fixVar false v with
  | case1 | case3 => rfl
  | case2 t _ hf => simp [t, hp] at hf

/-- C19-3: it returns false **exactly** when some equivalence joins components that are neither siblings nor
    parent and child, or involves a parentless variable -/
theorem C19_fix_false_iff (vs : List Var) (hne : ∀ v ∈ vs, v.rels ≠ []) :
    (fixAll false vs).2 = false ↔ ∃ v ∈ vs, ∃ r ∈ v.rels, Bad r := by
  simp only [fixAll, List.all_map, List.all_eq_false, Function.comp, fixVar_snd, Decidable.not_not]
  exact exists_congr fun v => and_congr_right fun hv => determine_none_iff v.rels (hne v hv)

/-- the superseded early exit (repaired by 9bfe6a9): a witness -/
theorem C19_early_exit_refuted :
    let v : Var := ⟨"", [.sibling, .vParentOfE, .unreachable]⟩
    (fixVar true v).2 = true ∧ validatorIssue true (fixVar true v).1 = false ∧
    (fixVar false v).2 = false ∧ validatorIssue false (fixVar false v).1 = true := by decide +kernel

theorem linkVar_false_iff (mu : List String) (r : URef) :
    (linkVar mu r).2 = false ↔ (∃ n, r = .foreign n) ∨ (∃ n, r = .foreignStd n) ∨ (∃ n, r = .loose n ∧ n ∉ mu) := by
  cases r with
  | loose n => by_cases hn : n ∈ mu <;> simp [linkVar, hn]
  | _ => simp [linkVar]

/-- `hasUnlinked [·]`: its test of one variable has no name of its own -/
theorem linkVar_true (mu : List String) (r : URef) (h : (linkVar mu r).2 = true) :
    hasUnlinked [(linkVar mu r).1] = false ∧ ∀ n, r = .loose n → (linkVar mu r).1 = .linked n ∧ n ∈ mu := by
  cases r with
  | loose n =>
    by_cases hn : n ∈ mu
    · simp [linkVar, hn, hasUnlinked]
    · simp [linkVar, hn] at h
  | foreign n | foreignStd n => cases h
  | _ => exact ⟨rfl, nofun⟩

/-- C19-4: when `linkUnits()` returns true no variable is left unlinked, and every variable that named
    non-standard units holds the model's own units of that name -/
theorem C19_linkUnits (mu : List String) (vs : List URef) (h : (linkAll mu vs).2 = true) :
    hasUnlinked (linkAll mu vs).1 = false ∧
    (∀ r ∈ vs, ∀ n, r = .loose n → (linkVar mu r).1 = .linked n ∧ n ∈ mu) := by
  simp only [linkAll, List.all_map, List.all_eq_true, Function.comp] at h
  refine ⟨?_, fun r hr => (linkVar_true mu r (h r hr)).2⟩
  simp only [linkAll, hasUnlinked, List.map_map, List.any_map, List.any_eq_false, Function.comp]
  intro r hr
  simpa [hasUnlinked] using (linkVar_true mu r (h r hr)).1

/-- … and it returns false exactly when some variable names units the model lacks or units of another model -/
theorem C19_linkUnits_false_iff (mu : List String) (vs : List URef) :
    (linkAll mu vs).2 = false ↔ ∃ r ∈ vs, (∃ n, r = .foreign n) ∨ (∃ n, r = .foreignStd n) ∨ (∃ n, r = .loose n ∧ n ∉ mu) := by
  simp only [linkAll, List.all_map, List.all_eq_false, Function.comp, Bool.not_eq_true, linkVar_false_iff]

/-- C19-5a: `clean` is idempotent on components: what it keeps it would keep again, unchanged -/
theorem cleanTree_idem : ∀ (f : Nat) (t t' : CTree), cleanTree f t = some t' → cleanTree f t' = some t'
  | 0, _, _, _ => rfl
  | f+1, .mk name id math imp nv nr kids, t', h => by
    simp only [cleanTree] at h
    split at h
    · cases h
    next hc =>
      cases h
      simp only [cleanTree, filterMap_idem _ (cleanTree_idem f)]
      rw [if_neg hc]

/-- C19-5b: a component is removed exactly when, after its own children have been cleaned, it has no variables,
    resets or children, no math, is not an import and has neither name nor id -/
theorem cleanTree_none_iff (f : Nat) (name id math : String) (imp : Bool) (nv nr : Nat) (kids : List CTree) :
    cleanTree (f+1) (.mk name id math imp nv nr kids) = none ↔
      (nv = 0 ∧ nr = 0 ∧ (∀ k ∈ kids, cleanTree f k = none) ∧ math = "" ∧ imp = false ∧ name = "" ∧ id = "") := by
  have hsum : nv + nr + (kids.filterMap (cleanTree f)).length = 0 ↔
      nv = 0 ∧ nr = 0 ∧ ∀ k ∈ kids, cleanTree f k = none := by
    rw [Nat.add_eq_zero_iff, Nat.add_eq_zero_iff, List.length_eq_zero_iff, List.filterMap_eq_nil_iff, and_assoc]
  simp only [cleanTree]
  split
  next hc =>
    obtain ⟨h0, hrest⟩ := hc
    obtain ⟨h1, h2, h3⟩ := hsum.mp h0
    exact iff_of_true rfl ⟨h1, h2, h3, hrest⟩
  next hc =>
    exact iff_of_false nofun fun ⟨h1, h2, h3, hrest⟩ => hc ⟨hsum.mpr ⟨h1, h2, h3⟩, hrest⟩

/-- C19-5c: units are removed exactly when empty by the documented definition; the rest keeps its order -/
theorem C19_clean_units (fuel : Nat) (comps : List CTree) (units : List UInfo) :
    (clean fuel comps units).2 = units.filter (fun u => !emptyUnits u) ∧
    (∀ u ∈ (clean fuel comps units).2, emptyUnits u = false) := by
  refine ⟨rfl, fun u hu => ?_⟩
  simp only [clean, List.mem_filter, Bool.not_eq_true'] at hu
  exact hu.2

theorem C19_clean_idempotent (fuel : Nat) (comps : List CTree) (units : List UInfo) :
    clean fuel (clean fuel comps units).1 (clean fuel comps units).2 = clean fuel comps units := by
  simp only [clean, List.filter_filter, Bool.and_self, filterMap_idem _ (cleanTree_idem fuel)]

example : (fixAll false [⟨"private", [.sibling]⟩, ⟨"bogus", [.vParentOfE, .vChildOfE]⟩]) =
    ([⟨"public", [.sibling]⟩, ⟨"public_and_private", [.vParentOfE, .vChildOfE]⟩], true) := by decide +kernel
example : (linkAll ["mV"] [.loose "mV", .standard "second", .none_]).2 = true := by decide

end Cellml.Props.C19
