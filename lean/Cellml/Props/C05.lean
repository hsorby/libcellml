/-
  C05 — analysis classifies every model and variable consistently: property theorems.

  Model: `Cellml/Analyser/Model.lean` (`check`, the three-pass loop, constants, requalification, NLA over-determination,
  model type, final indices), tied to `Analyser::analyseModel` by engine `analyse` on abstract systems extracted
  from CellML text (`pygen/absys.py`), for generated systems and their under- or over-constrained variants.
  The order / renaming independence of the classification is checked on the implementation (all generated systems
  under permutations of components, variables, equations, connections and consistent renaming); the full statement
  (`OrderIndependent`) is refuted for the model by a concrete witness (`not_orderIndependent`), a known finding.
-/
import Cellml.Analyser.Termination
import Cellml.Analyser.Deps
import Cellml.Analyser.Requalify
import Cellml.Lists
namespace Cellml.Props.C05
open Cellml.Analyser

/-- **termination**: the loop of `analyse` is never cut short by its fuel — it is the loop run to its natural end -/
theorem loop_complete (s : St) : ∃ r, loopO (fuelFor s) s 1 false = some r ∧ loop (fuelFor s) s 1 false = r :=
  loop_fuelFor s

/-- a check never un-types an equation; a relevant check types exactly one more -/
theorem check_monotone (s : St) (i : Nat) (nla : Bool) :
    unknownCount (check s i nla).1 + (if (check s i nla).2 then 1 else 0) = unknownCount s :=
  check_count s i nla

/-- **dense, unique indices**: the state indices are 0, 1, 2, … in creation order, and so are the variable indices -/
theorem indices_dense (vs : List V) (si vi : Nat) :
    ((vs.zip (idxFrom si vi vs)).filterMap fun p => if slot p.1 = .state then p.2 else none)
        = List.range' si (vs.countP fun v => slot v = .state)
      ∧ ((vs.zip (idxFrom si vi vs)).filterMap fun p => if slot p.1 = .variable then p.2 else none)
        = List.range' vi (vs.countP fun v => slot v = .variable) := by
  induction vs generalizing si vi with
  | nil => exact ⟨rfl, rfl⟩
  | cons v r ih =>
    -- the head takes the next index of its own kind; the other counter is passed on unchanged
    cases hs : slot v <;> simp [idxFrom, hs, ih, List.range'_succ]

private theorem idxFrom_isSome (vs : List V) : ∀ (si vi : Nat),
    (idxFrom si vi vs).map Option.isSome = vs.map fun v => slot v != .none := by
  induction vs with
  | nil => intro si vi; rfl
  | cons v r ih => intro si vi; cases hs : slot v <;> simp [idxFrom, hs, ih]

/-- every class gets an index exactly when it is a state or a variable of the analysed model -/
theorem index_iff_slot (vs : List V) : ∀ (si vi : Nat),
    (idxFrom si vi vs).length = vs.length
      ∧ ∀ k (h : k < vs.length), ((idxFrom si vi vs)[k]?.bind id).isSome = (slot vs[k] ≠ .none) := by
  intro si vi
  have hm := idxFrom_isSome vs si vi
  have hl : (idxFrom si vi vs).length = vs.length := by simpa using congrArg List.length hm
  refine ⟨hl, fun k hk => ?_⟩
  have hk' : k < (idxFrom si vi vs).length := hl ▸ hk
  have hmk : ((idxFrom si vi vs)[k]).isSome = (slot vs[k] != .none) := by
    have : ((idxFrom si vi vs).map Option.isSome)[k]? = (vs.map fun v => slot v != .none)[k]? := congrArg (·[k]?) hm
    rw [List.getElem?_map, List.getElem?_map, List.getElem?_eq_getElem hk, List.getElem?_eq_getElem hk'] at this
    exact Option.some.inj this
  rw [List.getElem?_eq_getElem hk', Option.bind_some]
  show ((idxFrom si vi vs)[k].isSome = true) = _
  rw [hmk]
  exact propext bne_iff_ne

private theorem modelType_cases (s : St) : ∃ m, (m = .ode ∨ m = .algebraic ∨ m = .nla ∨ m = .dae) ∧
    modelType s =
      if (s.vars.any fun v => v.ty = .unknown || v.ty = .shouldBeState) && (s.vars.any fun v => v.ty = .overconstrained)
        then .unsuitably
      else if (s.vars.any fun v => v.ty = .unknown || v.ty = .shouldBeState) then .underconstrained
      else if (s.vars.any fun v => v.ty = .overconstrained) then .overconstrained else m := by
  refine ⟨if (s.vars.any fun v => v.ty = .state) then (if (s.eqs.any fun e => e.ty = .nla) then .dae else .ode)
    else (if (s.eqs.any fun e => e.ty = .nla) then .nla else .algebraic), ?_, rfl⟩
  cases (s.vars.any fun v => decide (v.ty = .state)) <;> cases (s.eqs.any fun e => decide (e.ty = .nla)) <;> simp

/-- the model type is one of the four valid ones exactly when no class is left unknown, an uninitialised state or
    overconstrained -/
theorem modelType_valid_iff (s : St) :
    (modelType s = .ode ∨ modelType s = .algebraic ∨ modelType s = .nla ∨ modelType s = .dae) ↔ valid s = true := by
  obtain ⟨m, hm, h⟩ := modelType_cases s
  unfold valid
  rw [h, any_or (fun v : V => decide (v.ty = .unknown) || decide (v.ty = .shouldBeState)) (fun v => decide (v.ty = .overconstrained))]
  cases (s.vars.any fun v => decide (v.ty = .unknown) || decide (v.ty = .shouldBeState)) <;>
    cases (s.vars.any fun v => decide (v.ty = .overconstrained))
  · exact ⟨fun _ => rfl, fun _ => hm⟩
  all_goals simp

/-- the three error types: a class left unknown **or a state that is never initialised** makes the model underconstrained,
    a class computed more than once makes it overconstrained, both at once unsuitably constrained -/
theorem modelType_errors (s : St) :
    let under := ∃ v ∈ s.vars, v.ty = .unknown ∨ v.ty = .shouldBeState
    let over := ∃ v ∈ s.vars, v.ty = .overconstrained
    (modelType s = .unsuitably ↔ under ∧ over) ∧ (modelType s = .underconstrained ↔ under ∧ ¬ over) ∧
    (modelType s = .overconstrained ↔ ¬ under ∧ over) := by
  have hu : (s.vars.any fun v => decide (v.ty = .unknown) || decide (v.ty = .shouldBeState)) = true ↔
      ∃ v ∈ s.vars, v.ty = .unknown ∨ v.ty = .shouldBeState := by
    simp only [List.any_eq_true, Bool.or_eq_true, decide_eq_true_eq]
  have ho : (s.vars.any fun v => decide (v.ty = .overconstrained)) = true ↔ ∃ v ∈ s.vars, v.ty = .overconstrained := by
    simp only [List.any_eq_true, decide_eq_true_eq]
  obtain ⟨m, hm, h⟩ := modelType_cases s
  rw [h, ← hu, ← ho]
  cases (s.vars.any fun v => decide (v.ty = .unknown) || decide (v.ty = .shouldBeState)) <;>
    cases (s.vars.any fun v => decide (v.ty = .overconstrained))
  · rcases hm with rfl | rfl | rfl | rfl <;> decide
  all_goals simp

/-- **nothing an equation reads is forgotten**: once an equation is typed, every class it mentions outside `diff` is
    either one of its recorded dependencies or one of the unknowns it computes -/
theorem reads_recorded (s : St) (hp : ∀ e ∈ s.eqs, e.ty = .unknown) (i : Nat) (e0 e : E)
    (h0 : s.eqs[i]? = some e0) (h : (analyse s).eqs[i]? = some e) (ht : e.ty ≠ .unknown) :
    ∀ v ∈ e0.vars, v ∈ e.deps.map (·.1) ∨ v ∈ e.unknowns := by
  intro v hv
  have hc := analyse_cov s hp i e0 e h0 h
  rcases hc.1 v hv with h1 | h1 | h1
  · exact Or.inr (hc.2 ht v h1)
  · exact Or.inl h1
  · exact Or.inr h1

/-- **each equation depends on the equations computing what it reads**: if typed equation `i` reads class `v`, does not
    compute `v` itself, and equation `j` computes `v`, then `j` is among the dependencies wired for `i` (the lookup goes
    through the class, so it does not matter which member of the class was its representative when the dependency
    was recorded) -/
theorem reads_imply_depends (s : St) (hp : ∀ e ∈ s.eqs, e.ty = .unknown) (i j v : Nat) (e0 e : E)
    (h0 : s.eqs[i]? = some e0) (h : (analyse s).eqs[i]? = some e) (ht : e.ty ≠ .unknown)
    (hv : v ∈ e0.vars) (hown : v ∉ e.unknowns) (hj : computes (analyse s) j v = true) :
    j ∈ eqDeps (analyse s) i := by
  have hd : v ∈ e.deps.map (·.1) := by
    rcases reads_recorded s hp i e0 e h0 h ht v hv with h1 | h1
    · exact h1
    · exact absurd h1 hown
  obtain ⟨d, hd1, hd2⟩ := List.mem_map.mp hd
  have hlt : j < (analyse s).eqs.length := by
    unfold computes at hj
    split at hj
    next x hx => exact (List.getElem?_eq_some_iff.mp hx).1
    next => cases hj
  unfold eqDeps
  rw [h]
  simp only [List.mem_filter, List.mem_range, List.any_eq_true]
  exact ⟨hlt, d, hd1, by rw [hd2]; exact hj⟩

/-! The removal of an equation's own unknowns from its record compares *variables*, not classes: a dependency recorded
    while another member of the class was its representative survives, and the equation then depends on itself.  This
    is what the implementation does (the correspondence compares the dependency sets); it only happens to ODEs and NLA
    equations (an unknown must be known before its equation is typed), whose dependencies the generator does not follow.
    Witness: `x` initialised in component 0, `dx/dt = x` in component 1. -/
def selfDep : St :=
  { vars := [⟨.voi, none, false, 0⟩, ⟨.state, none, false, 0⟩],
    eqs := [{ comp := 1, vars := [1], odes := [1], all := [1, 1], lhs := some (1, true), rhs := none }] }

theorem ode_self_dependency_witness : eqDeps (analyse selfDep) 0 = [0] := by decide

/-- with the initial value in the component of the ODE the self-dependency is removed -/
theorem ode_self_dependency_removed :
    eqDeps (analyse { selfDep with eqs := selfDep.eqs.map fun e => { e with comp := 0 } }) 0 = [] := by decide

/-- **requalification runs to its fixpoint**: after it, no equation typed "variable-based constant" reads (apart from
    its own unknown) a class that is not a constant, a computed true constant or a computed variable-based constant —
    however long the chain of equations hanging off a non-constant variable is, in whatever order they are listed -/
theorem requalified (s : St) (i u : Nat) (e : E) (h : (requalify s).eqs[i]? = some e) (hv : e.ty = .varConstant)
    (hu : e.unknowns.head? = some u) :
    ∀ v ∈ e.all, v ≠ u → ((requalify s).v v).ty = .constant ∨ ((requalify s).v v).ty = .ctc ∨ ((requalify s).v v).ty = .cvc :=
  stable_reads_constants (requalify_stable s) h hv hu

/-! non-vacuity: a is solved by an NLA equation (a a = 4, a initialised); X = 2 a, Y = X + 1, Z = Y + 1 listed in reverse -/
def chainNla : St :=
  { vars := [⟨.initialised, none, false, 0⟩, ⟨.unknown, none, false, 0⟩, ⟨.unknown, none, false, 0⟩, ⟨.unknown, none, false, 0⟩],
    eqs := [{ comp := 0, vars := [3, 2], odes := [], all := [3, 2], lhs := some (3, false), rhs := none },
            { comp := 0, vars := [2, 1], odes := [], all := [2, 1], lhs := some (2, false), rhs := none },
            { comp := 0, vars := [1, 0], odes := [], all := [1, 0], lhs := some (1, false), rhs := none },
            { comp := 0, vars := [0], odes := [], all := [0, 0], lhs := none, rhs := none }] }
example : (analyse chainNla).vars.map (·.ty) = [.initAlg, .algebraic, .algebraic, .algebraic] := by decide +kernel
example : (analyse chainNla).eqs.map (·.ty) = [.algebraic, .algebraic, .algebraic, .nla] := by decide +kernel

/-- full statement of order independence (not proved for the model; checked on the implementation): permuting the
    equations of a system does not change the type of any class nor the model type -/
def OrderIndependent : Prop :=
  ∀ (vs : List V) (es es' : List E), es.Perm es' →
    (analyse { vars := vs, eqs := es }).vars.map (·.ty) = (analyse { vars := vs, eqs := es' }).vars.map (·.ty)
      ∧ modelType (analyse { vars := vs, eqs := es }) = modelType (analyse { vars := vs, eqs := es' })

/-! The full statement is FALSE of the model (and of the implementation, which the model is tied to): with `x` initialised,
    `h = x + sin x` listed before `h = 5` claims `h` (and `h = 5` then over-constrains it), listed after it becomes an NLA
    equation for `x`.  The witness is replayed on the real analyser by `checks/C05.py` (known finding
    C05-order-initialised-unknown). -/
def wV : List V := [⟨.unknown, none, false, 0⟩, ⟨.initialised, none, false, 0⟩]
def wE1 : E := { comp := 0, vars := [0, 1], odes := [], all := [0, 1], lhs := some (0, false), rhs := none }
def wE2 : E := { comp := 0, vars := [0], odes := [], all := [0], lhs := some (0, false), rhs := none }

theorem witness_types : modelType (analyse { vars := wV, eqs := [wE1, wE2] }) = .overconstrained
    ∧ modelType (analyse { vars := wV, eqs := [wE2, wE1] }) = .nla := by decide +kernel

theorem not_orderIndependent : ¬ OrderIndependent := by
  intro h
  have h2 := (h wV [wE1, wE2] [wE2, wE1] (List.Perm.swap _ _ _)).2
  rw [witness_types.1, witness_types.2] at h2
  cases h2

/-! non-vacuity: x' = -x with x(0) = 1 (classes: 0 = t, 1 = x) and y = 2 x -/
def sample : St :=
  { vars := [⟨.voi, none, false, 0⟩, ⟨.state, none, false, 0⟩, ⟨.unknown, none, false, 0⟩],
    eqs := [{ comp := 0, vars := [1], odes := [1], all := [1], lhs := some (1, true), rhs := none },
            { comp := 0, vars := [2, 1], odes := [], all := [2, 1], lhs := some (2, false), rhs := none }] }

example : modelType (analyse sample) = .ode := by decide
example : (analyse sample).vars.map (·.ty) = [.voi, .state, .algebraic] := by decide
example : finalIndices (analyse sample).vars = [none, some 0, some 0] := by decide +kernel
example : (analyse sample).eqs.map (·.ty) = [.ode, .algebraic] := by decide
example : eqDeps (analyse sample) 1 = [0] ∧ eqDeps (analyse sample) 0 = [] := by decide +kernel
example : ∀ e ∈ sample.eqs, e.ty = .unknown := by decide

end Cellml.Props.C05
