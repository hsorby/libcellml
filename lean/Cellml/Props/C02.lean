/-
  C02 — printing then parsing preserves content: property theorems (attribute text level).

  Models: `Cellml/Xml/Escape.lean`, tied to `escapeAttributeValue` of src/printer.cpp by engine `xml` (random and
  adversarial strings); `Cellml/Xml/Attrs.lean`, the attributes of `<unit>` and `<variable>` that are left out when they
  have their default value (engine `attrs`); the attribute vocabulary of printer and parser, regenerated from
  printer.cpp and parser.cpp.  The structural round trip (every element and attribute, connections, encapsulation, resets,
  imports, MathML) is checked on the implementation: generated documents over the whole feature space are parsed,
  printed, parsed again and printed again (`checks/C02.py`).
-/
import Cellml.Xml.Escape
import Cellml.Xml.Attrs
import Cellml.Generated.Attributes
import Cellml.Lists
namespace Cellml.Props.C02
open Cellml.Xml

theorem escapeChar_cases {P : Char → List Char → Prop} (amp : P '&' ['&', 'a', 'm', 'p', ';'])
    (lt : P '<' ['&', 'l', 't', ';']) (gt : P '>' ['&', 'g', 't', ';']) (quot : P '"' ['&', 'q', 'u', 'o', 't', ';'])
    (plain : ∀ c, c ≠ '&' → c ≠ '<' → c ≠ '>' → c ≠ '"' → P c [c]) (c : Char) : P c (escapeChar c) := by
  -- (`exact amp` is slow here: it evaluates `String.toList` in the elaborator)
  fun_cases escapeChar c with
  | case1 h =>
    rw [h]
    simpa only [String.reduceToList] using amp
  | case2 _ h =>
    rw [h]
    simpa only [String.reduceToList] using lt
  | case3 _ _ h =>
    rw [h]
    simpa only [String.reduceToList] using gt
  | case4 _ _ _ h =>
    rw [h]
    simpa only [String.reduceToList] using quot
  | case5 h1 h2 h3 h4 => exact plain c h1 h2 h3 h4

theorem unescape_plain (c : Char) (r : List Char) (h : c ≠ '&') : unescape (c :: r) = c :: unescape r := by
  simp [unescape, h]

theorem wellFormed_plain (c : Char) (r : List Char) (h : c ≠ '&') :
    wellFormed (c :: r) = (c ≠ '<' && c ≠ '"' && wellFormed r) := by
  simp [wellFormed, h]

theorem unescape_escapeChar (c : Char) (r : List Char) : unescape (escapeChar c ++ r) = c :: unescape r :=
  escapeChar_cases (P := fun c e => unescape (e ++ r) = c :: unescape r) rfl rfl rfl rfl
    (fun c h _ _ _ => unescape_plain c r h) c

theorem wellFormed_escapeChar (c : Char) (r : List Char) : wellFormed (escapeChar c ++ r) = wellFormed r :=
  escapeChar_cases (P := fun _ e => wellFormed (e ++ r) = wellFormed r) rfl rfl rfl rfl
    (fun c h hl _ hq => by simp [wellFormed_plain c r h, hl, hq]) c

theorem escapeChar_ne_nil (c : Char) : escapeChar c ≠ [] :=
  escapeChar_cases (P := fun _ e => e ≠ []) nofun nofun nofun nofun (fun _ _ _ _ _ => nofun) c

theorem escapeChar_eq_self_iff (c : Char) :
    escapeChar c = [c] ↔ (c ≠ '&' && c ≠ '<' && c ≠ '>' && c ≠ '"') = true :=
  escapeChar_cases (P := fun c e => e = [c] ↔ (c ≠ '&' && c ≠ '<' && c ≠ '>' && c ≠ '"') = true)
    (by decide) (by decide) (by decide) (by decide) (fun c h1 h2 h3 h4 => by simp [h1, h2, h3, h4]) c

theorem escape_cons (c : Char) (r : List Char) : escape (c :: r) = escapeChar c ++ escape r :=
  List.flatMap_cons

/-- **round trip of attribute text**: what the printer's escaping writes is decoded back to the original text -/
theorem unescape_escape (s : List Char) : unescape (escape s) = s := by
  induction s with
  | nil => rfl
  | cons c r ih => rw [escape_cons, unescape_escapeChar, ih]

theorem wellFormed_escape (s : List Char) : wellFormed (escape s) = true := by
  induction s with
  | nil => rfl
  | cons c r ih => rw [escape_cons, wellFormed_escapeChar, ih]

theorem escape_eq_self_iff (s : List Char) : escape s = s ↔ safe s = true := by
  simp only [escape, flatMap_eq_self_iff _ escapeChar_ne_nil, escapeChar_eq_self_iff, safe, List.all_eq_true]

/-- raw concatenation (what the printer does for every other attribute) is well formed for safe text -/
theorem wellFormed_of_safe (s : List Char) (h : safe s = true) : wellFormed s = true := by
  rw [← (escape_eq_self_iff s).mpr h]
  exact wellFormed_escape s

example : escape "m.cellml?a=1&b=2".toList = "m.cellml?a=1&amp;b=2".toList := by decide +kernel
example : wellFormed "m.cellml?a=1&b=2".toList = false := by decide +kernel
example : unescape "a&lt;b&quot;&apos;&amp;amp;".toList = "a<b\"'&amp;".toList := by decide +kernel

theorem storePrefix_zero : storePrefix "0" = "" := by decide

/-- what `addUnit` stores as a prefix is a fixed point: storing it again changes nothing -/
theorem storePrefix_idem (p : String) : storePrefix (storePrefix p) = storePrefix p := by
  unfold storePrefix
  -- on the test of `p`: "" was stored (storing "" is a closed fact), or `p` was kept and fails the test again
  split
  · decide
  · rfl

/-- **round trip of a unit child**: printing the stored attributes and loading them again gives the stored unit back,
    provided the two numbers survive their rendering (`rd (shw x) = some x`) and the prefix is one that `addUnit`
    stores (every stored prefix is: `storePrefix_idem`) -/
theorem unit_roundtrip {N : Type} [DecidableEq N] (one : N) (shw : N → String) (rd : String → Option N) (u : UnitRec N)
    (he : rd (shw u.exponent) = some u.exponent) (hm : rd (shw u.multiplier) = some u.multiplier)
    (hp : storePrefix u.pfx = u.pfx) :
    loadUnit one rd (printUnit one shw u) = u := by
  obtain ⟨r, p, e, m, i⟩ := u
  -- an attribute left out is one the step would write over its own default (`foldl_omit`); only the prefix, left
  -- out, is read as "0", which `addUnit` stores as no prefix
  by_cases h3 : p = ""
  · simp [loadUnit, printUnit, foldl_omit, loadStep, he, hm, h3, storePrefix_zero]
  · simp [loadUnit, printUnit, foldl_omit, loadStep, he, hm, h3, hp]

/-- an attribute the printer leaves out is exactly one whose value is the parser's default -/
theorem unit_omitted_iff {N : Type} [DecidableEq N] (one : N) (shw : N → String) (u : UnitRec N) :
    ((printUnit one shw u).lookup "exponent" = none ↔ u.exponent = one)
      ∧ ((printUnit one shw u).lookup "multiplier" = none ↔ u.multiplier = one)
      ∧ ((printUnit one shw u).lookup "prefix" = none ↔ u.pfx = "")
      ∧ (printUnit one shw u).lookup "units" = some u.reference := by
  simp [printUnit, List.lookup_append, apply_ite (List.lookup _), List.lookup]

/-- **round trip of a variable's attributes** (all of them are strings, absent = empty) -/
theorem variable_roundtrip (v : VarRec) : loadVariable (printVariable v) = v := by
  obtain ⟨n, u, iv, itf, i⟩ := v
  simp [loadVariable, printVariable, foldl_omit, loadVarStep]

/-- T-tie: every attribute name the printer writes on an element is one the parser looks for on that element, and every
    attribute the parser looks for is written back by the printer — except the CellML 1.x attributes: the two interface
    attributes, which are merged into `interface` (C14), and the `offset` of a unit, which CellML 2.0 cannot represent and
    the permissive parser drops with a message (fix 61e3219) -/
theorem attribute_vocabulary :
    (∀ r ∈ Cellml.Generated.Attributes.rows, ∀ a ∈ r.2.2, a ∈ r.2.1)
      ∧ (∀ r ∈ Cellml.Generated.Attributes.rows, ∀ a ∈ r.2.1, a ∈ r.2.2 ∨ a = "public_interface" ∨ a = "private_interface" ∨ a = "offset")
      ∧ Cellml.Generated.Attributes.rows.map (·.1) = ["model", "component", "units", "variable", "connection", "encapsulation", "import", "reset"]
      ∧ (∀ r ∈ Cellml.Generated.Attributes.rows, r.2.2 ≠ []) := by
  decide +kernel

def exShow (n : Nat) : String := if n = 2 then "2" else "1"
def exRead (s : String) : Option Nat := if s = "2" then some 2 else if s = "1" then some 1 else none
example : loadUnit 1 exRead (printUnit 1 exShow ⟨"metre", "milli", 2, 1, "id1"⟩) = ⟨"metre", "milli", 2, 1, "id1"⟩ := by decide +kernel
example : printUnit 1 exShow ⟨"metre", "", 1, 1, ""⟩ = [("units", "metre")] := by decide
example : (loadUnit 1 exRead [("prefix", "00"), ("units", "second")]).pfx = "" := by decide
example : exRead (exShow 2) = some 2 ∧ storePrefix "milli" = "milli" := by decide

end Cellml.Props.C02
