/-
  C04 — the validator accepts valid models and rejects every rule violation: property theorems for the two
  uniqueness checks and the identifier syntax that are modelled (`Cellml/Valid/Model.lean`, tied by engine `valid`), and
  for the arity / `cn` format pass over MathML (`Cellml/Valid/Walk.lean`).  Acceptance of valid-by-construction documents
  and rejection of every injected single-rule violation, at every applicable location, with an error citing the rule, is
  checked on the implementation (`checks/C04.py`).
-/
import Cellml.Valid.Model
import Cellml.Generated.MathWalk
namespace Cellml.Props.C04
open Cellml.Valid

theorem dupReports_nil_iff (names seen : List String) (i : Nat) :
    dupReports names seen i = [] ↔ (∀ n ∈ names, n ≠ "" → n ∉ seen) ∧ (names.filter (· ≠ "")).Nodup := by
  fun_induction dupReports names seen i with
  | case1 => simp
  | case2 seen i rest ih => simpa using ih  -- empty name, skipped
  | case3 n rest seen i h0 hs ih =>
    -- reported at once, and `n` itself refutes the right-hand side
    have hs' : n ∈ seen := by simpa using hs
    exact iff_of_false nofun fun h => h.1 n List.mem_cons_self h0 hs'
  | case4 n rest seen i h0 hs ih =>
    -- `n` is remembered: the rest has to avoid it as well as `seen`
    have hs' : n ∉ seen := by simpa using hs
    rw [ih, List.filter_cons, if_pos (by simpa using h0), List.nodup_cons]
    simp only [List.mem_cons, not_or, List.mem_filter, h0, ne_eq, not_false_eq_true, decide_true, and_true]
    have key : (∀ m ∈ rest, ¬m = "" → ¬m = n ∧ m ∉ seen) ↔
        (∀ m, m = n ∨ m ∈ rest → ¬m = "" → m ∉ seen) ∧ n ∉ rest := by
      constructor
      · intro h
        refine ⟨fun m hm hm0 => ?_, fun hn => (h n hn h0).1 rfl⟩
        rcases hm with rfl | hm
        · exact hs'
        · exact (h m hm hm0).2
      · rintro ⟨h, hn⟩ m hm hm0
        exact ⟨fun e => hn (e ▸ hm), h m (Or.inr hm) hm0⟩
    rw [key, and_assoc]

/-- **unique names**: no issue is raised exactly when the non-empty names are pairwise distinct -/
theorem names_accepted_iff (names : List String) : nameIssues names = [] ↔ (names.filter (· ≠ "")).Nodup := by
  simp [nameIssues, dupReports_nil_iff]

theorem dupReports_mem (names seen : List String) (i : Nat) :
    ∀ k ∈ dupReports names seen i, ∃ j n, k = i + j ∧ names[j]? = some n ∧ (n ∈ seen ∨ n ∈ names.take j) := by
  -- a report from the rest, made with at most `n` remembered besides `seen`, is a report from the whole
  have tail : ∀ {n : String} {rest seen seen' : List String} {i k : Nat}, (∀ x ∈ seen', x ∈ seen ∨ x = n) →
      (∃ j m, k = i + 1 + j ∧ rest[j]? = some m ∧ (m ∈ seen' ∨ m ∈ rest.take j)) →
      ∃ j m, k = i + j ∧ (n :: rest)[j]? = some m ∧ (m ∈ seen ∨ m ∈ (n :: rest).take j) := by
    rintro n rest seen seen' i k hs ⟨j, m, rfl, h2, h3⟩
    refine ⟨j + 1, m, by omega, h2, ?_⟩
    rw [List.take_succ_cons, List.mem_cons]
    rcases h3 with h3 | h3
    · rcases hs m h3 with h | h
      · exact Or.inl h
      · exact Or.inr (Or.inl h)
    · exact Or.inr (Or.inr h3)
  fun_induction dupReports names seen i with
  | case1 => nofun
  | case2 seen i rest ih =>
    intro k hk
    exact tail (fun _ hx => Or.inl hx) (ih k hk)
  | case3 n rest seen i h0 hs ih =>
    intro k hk
    rcases List.mem_cons.mp hk with rfl | hk
    · exact ⟨0, n, rfl, rfl, Or.inl (by simpa using hs)⟩
    · exact tail (fun _ hx => Or.inl hx) (ih k hk)
  | case4 n rest seen i h0 hs ih =>
    intro k hk
    have hseen : ∀ x ∈ n :: seen, x ∈ seen ∨ x = n := fun x hx => (List.mem_cons.mp hx).symm
    exact tail hseen (ih k hk)

/-- every reported position holds a name that occurred earlier (for `nameIssues`: position `k` holds a name that
    stands among the first `k`) -/
theorem dupReports_sound (names seen : List String) (i : Nat) :
    ∀ k ∈ dupReports names seen i, i ≤ k ∧ ∃ n, names[k - i]? = some n ∧ (n ∈ seen ∨ n ∈ names.take (k - i)) := by
  intro k hk
  obtain ⟨j, n, rfl, h⟩ := dupReports_mem names seen i k hk
  rw [Nat.add_sub_cancel_left]
  exact ⟨Nat.le_add_right i j, n, h⟩

theorem dedup_eq_nil (l : List String) : dedup l = [] ↔ l = [] := by
  cases l <;> simp [dedup]

/-- **unique ids**: no id is reported exactly when the collected ids are pairwise distinct -/
theorem ids_accepted_iff (ids : List String) : idIssues ids = [] ↔ ids.Nodup := by
  rw [idIssues, dedup_eq_nil, List.nodup_iff_count]
  simp only [List.filter_eq_nil_iff, decide_eq_true_eq, Nat.not_lt]
  refine ⟨fun h a => ?_, fun h a _ => h a⟩
  by_cases ha : a ∈ ids
  · exact h a ha
  · rw [List.count_eq_zero_of_not_mem ha]
    exact Nat.zero_le 1

example : nameIssues ["a", "b", "a", "", "", "b", "c"] = [2, 5] := by decide
example : idIssues ["x", "y", "x", "z", "x"] = ["x"] := by decide

/-- the CellML 2.0 identifier: a non-empty sequence of basic Latin letters, digits and underscores that does not begin
    with a digit -/
def SpecIdentifier (s : List Char) : Prop :=
  ∃ c rest, s = c :: rest ∧ isDigit c = false ∧ ∀ x ∈ s, isIdChar x = true

/-- **identifier syntax**: a name is accepted exactly when it is an identifier of the specification -/
theorem identifier_ok_iff (s : List Char) : identifier s = .ok ↔ SpecIdentifier s := by
  cases s with
  | nil => simp [identifier, SpecIdentifier]
  | cons c rest =>
    have hs : SpecIdentifier (c :: rest) ↔ isDigit c = false ∧ (c :: rest).all isIdChar = true := by
      simp [SpecIdentifier]
    rw [hs, identifier]
    by_cases hd : isDigit c = true
    · rw [if_pos hd]
      refine iff_of_false nofun fun h => ?_
      rw [hd] at h
      cases h.1
    · rw [if_neg hd]
      by_cases hall : (c :: rest).all isIdChar = true
      · rw [if_pos hall]
        exact iff_of_true rfl ⟨by simpa using hd, hall⟩
      · rw [if_neg hall]
        exact iff_of_false nofun fun h => hall h.2

/-! a rejected name is rejected under the rule that says why -/

theorem identifier_empty : identifier [] = .empty := rfl

theorem identifier_digit (c : Char) (rest : List Char) (h : isDigit c = true) : identifier (c :: rest) = .beginsWithDigit := by
  simp [identifier, h]

theorem identifier_other (c : Char) (rest : List Char) (h : isDigit c = false) (hx : ∃ x ∈ c :: rest, isIdChar x = false) :
    identifier (c :: rest) = .notLatinAlphanumeric := by
  obtain ⟨x, hm, hf⟩ := hx
  have hall : (c :: rest).all isIdChar = false := List.all_eq_false.mpr ⟨x, hm, by simp [hf]⟩
  simp only [identifier, h, hall, Bool.false_eq_true, if_false]

example : identifier "a_1".toList = .ok ∧ identifier "1a".toList = .beginsWithDigit ∧ identifier "a-b".toList = .notLatinAlphanumeric ∧ identifier [] = .empty := by decide +kernel

/-- T-tie: in the table of branches extracted from `validateMathMLElementsChildrenAndSiblings`, every element that can
    have MathML children (apply, piecewise, piece, otherwise, bvar, degree, logbase) has a branch that descends into all
    the children it insists on -/
theorem math_walk_table_covers : tableCovers Cellml.Generated.MathWalk.rows = true := by decide +kernel

/-- with such a table a tree in which every reached element with children is a container and raises no
    number-of-children issue is `Accepted` … -/
theorem accepted_of_table (rows : List Row) (ht : tableCovers rows = true) (t : Tree)
    (h : ∀ name kids, Reached rows t (.node name kids) → kids ≠ [] →
      name ∈ containers ∧ ∀ r ∈ rows, r.1 = name → r.2.1.holds kids.length = true) : Accepted rows t := by
  intro name kids hr hne
  obtain ⟨hc, hall⟩ := h name kids hr hne
  obtain ⟨r, hrm, hn, hcov⟩ := (tableCovers_iff rows).mp ht name hc
  exact ⟨r, hrm, hn, hcov, hall r hrm hn⟩

/-- … and then **no element escapes the pass**: every element of the tree, at any depth and in any position (operand,
    value or condition of a piece, otherwise, degree, logbase, bound variable), is reached and so has its local rule
    (number of siblings, `cn` format, non-empty `ci`) applied -/
theorem math_walk_complete (t : Tree)
    (h : ∀ name kids, Reached Cellml.Generated.MathWalk.rows t (.node name kids) → kids ≠ [] →
      name ∈ containers ∧ ∀ r ∈ Cellml.Generated.MathWalk.rows, r.1 = name → r.2.1.holds kids.length = true) :
    ∀ s, Sub t s → Reached Cellml.Generated.MathWalk.rows t s :=
  all_reached _ t (accepted_of_table _ math_walk_table_covers t h)

/-- a table in which the condition of a piece is not descended into does not cover -/
example : tableCovers [("apply", .atLeast 1, .all), ("piecewise", .any, .all), ("piece", .exactly 2, .idx [0]), ("otherwise", .exactly 1, .idx [0]),
    ("bvar", .any, .all), ("degree", .any, .all), ("logbase", .any, .all)] = false := by decide +kernel

end Cellml.Props.C04
