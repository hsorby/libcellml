/-
  C03 — generated code computes what the model's equations say: property theorems (expression level).

  Model: `Cellml/Gen/Model.lean` (`genDoc`, `gen`), tied byte for byte to `Generator::equationCode` by engine
  `expr`; profiles regenerated from the getters (`Cellml/Generated/Profiles.lean`).  Target grammar and values:
  `Cellml/Gen/Grammar.lean`; meaning of an expression tree: `Cellml/Gen/Spec.lean`.

  The statement: for every expression tree the analyser can build, the token sequence of the generated text is an
  expression of the target language whose value — whatever the identifiers and functions denote — is the value of
  the tree.  All nesting and associativity patterns, all operators, both profiles; no bound on depth.
-/
import Cellml.Gen.Sound
import Cellml.Generated.Profiles
namespace Cellml.Props.C03
open Cellml.Gen Cellml.Generated.Profiles

/-- sufficiently parenthesised, for every expression tree and every supported profile -/
theorem gen_ok (p : Profile) (hs : Supported p) (I : Interp) (t : Ast) (ht : exprOK .expr t = true) :
    ok p.style (genDoc p t) = true :=
  (inv_expr (I := I) hs t ht).ok

/-- the document's own value is the value of the tree (parentheses, special cases and operand order preserve meaning) -/
theorem gen_value (p : Profile) (hs : Supported p) (I : Interp) (t : Ast) (ht : exprOK .expr t = true) :
    evalDoc I (genDoc p t) = evalAst p I (I.atom p.nan) t :=
  ((inv_expr (I := I) hs t ht).ev _).symm

/-- the generated tokens are an expression of the target grammar with the value of the tree -/
theorem gen_parses (p : Profile) (hs : Supported p) (I : Interp) (t : Ast) (ht : exprOK .expr t = true) :
    Derives p.style I 0 (toks p.style (genDoc p t)) (evalAst p I (I.atom p.nan) t) := by
  have h := printer (st := p.style) (I := I) (genDoc p t) (gen_ok p hs I t ht)
  rw [gen_value p hs I t ht] at h
  exact derives_down h 0 (Nat.zero_le _)

theorem profC_style : profC.style = .c := by decide +kernel
theorem profPy_style : profPy.style = .py := by decide +kernel

/-- the C and the Python profile of the current tree are supported profiles (flags and conditional templates read
    from the regenerated table) -/
theorem profC_supported : Supported profC := ⟨rfl, rfl, rfl, Or.inl profC_style⟩
theorem profPy_supported : Supported profPy := ⟨rfl, rfl, rfl, Or.inr profPy_style⟩

/-- the operator spellings the grammar's levels stand for (a profile change that respells an operator, say `&&`
    into `&`, keeps every theorem above true and breaks this table) -/
theorem profC_spelling :
    profC.opStr .or = " || " ∧ profC.opStr .and = " && " ∧ profC.opStr .eq = " == " ∧ profC.opStr .neq = " != "
      ∧ profC.opStr .lt = " < " ∧ profC.opStr .leq = " <= " ∧ profC.opStr .gt = " > " ∧ profC.opStr .geq = " >= "
      ∧ profC.opStr .plus = "+" ∧ profC.opStr .minus = "-" ∧ profC.opStr .times = "*" ∧ profC.opStr .divide = "/"
      ∧ profC.opStr .not = "!" ∧ profC.hasXor = false ∧ profC.hasPower = false := by
  decide +kernel
theorem profPy_spelling :
    profPy.opStr .plus = "+" ∧ profPy.opStr .minus = "-" ∧ profPy.opStr .times = "*" ∧ profPy.opStr .divide = "/"
      ∧ profPy.hasEq = false ∧ profPy.hasNeq = false ∧ profPy.hasLt = false ∧ profPy.hasLeq = false ∧ profPy.hasGt = false
      ∧ profPy.hasGeq = false ∧ profPy.hasAnd = false ∧ profPy.hasOr = false ∧ profPy.hasXor = false ∧ profPy.hasNot = false
      ∧ profPy.hasPower = false := by
  decide

/-- C profile: the generated text is a C expression with the value of the tree -/
theorem c_profile (I : Interp) (t : Ast) (ht : exprOK .expr t = true) :
    Derives .c I 0 (toks .c (genDoc profC t)) (evalAst profC I (I.atom profC.nan) t) := by
  have := gen_parses profC profC_supported I t ht
  rwa [profC_style] at this

/-- Python profile: the generated text is a Python expression with the value of the tree -/
theorem python_profile (I : Interp) (t : Ast) (ht : exprOK .expr t = true) :
    Derives .py I 0 (toks .py (genDoc profPy t)) (evalAst profPy I (I.atom profPy.nan) t) := by
  have := gen_parses profPy profPy_supported I t ht
  rwa [profPy_style] at this

/-- the grammar facts the proof rests on, restated: `a + (b - c)` may be written `a + b - c`, `-(a*b)` is `-a*b` -/
theorem grammar_assoc {st : CondStyle} {I : Interp} {o : Op} (ho : o.assoc = true) {L R a b}
    (hL : Derives st I o.lvl L a) (hR : Derives st I o.lvl R b) (hh : R.head? ≠ some (.op o)) :
    Derives st I o.lvl (L ++ .op o :: R) (o.sem a b) :=
  derives_assoc ho hL hR rfl hh

/-! non-vacuity: the shapes named in the property statement are expression trees, and the theorems apply to them -/
def x (n : String) : Ast := .ci n
/-- `not(a and b)` -/
def tNotAnd : Ast := .node .NOT (.node .AND (x "a") (x "b")) .nul
/-- `a < (b < d)` -/
def tLtLt : Ast := .node .LT (x "a") (.node .LT (x "b") (x "d"))
/-- `a / -(b*c)` -/
def tDivNeg : Ast := .node .DIVIDE (x "a") (.node .MINUS (.node .TIMES (x "b") (x "c")) .nul)
/-- a piece whose value is a piecewise statement -/
def tNested : Ast :=
  .node .PIECEWISE (.node .PIECE (.node .PIECEWISE (.node .PIECE (x "a") (x "c1")) (.node .OTHERWISE (x "b") .nul)) (x "c"))
    (.node .OTHERWISE (x "d") .nul)

example : exprOK .expr tNotAnd = true ∧ exprOK .expr tLtLt = true ∧ exprOK .expr tDivNeg = true ∧ exprOK .expr tNested = true := by
  decide
example : genDoc profC tNotAnd = .pre .not (.paren (.bin .and (.atom false "a") (.atom false "b"))) := by decide
example : genDoc profC tLtLt = .bin .lt (.atom false "a") (.paren (.bin .lt (.atom false "b") (.atom false "d"))) := by decide
example : genDoc profC tDivNeg
    = .bin .divide (.atom false "a") (.paren (.pre .minus (.bin .times (.atom false "b") (.atom false "c")))) := by decide
example : ∃ a b, genDoc profPy tNested = .cond (.atom false "c") (.paren a) b := ⟨_, _, rfl⟩

end Cellml.Props.C03
