/-
  C11 — `clone()` is a faithful, independent deep copy: property theorems.
  Model: `Cellml/Clone/Model.lean`, tied by engine `clone` (content dumps of original and clone, pointer
  disjointness of the two object graphs, equals, parent, equivalences by position).
-/
import Cellml.Clone.Bridge
import Cellml.Equals.Iso
import Cellml.Generated.CloneFields
namespace Cellml.Props.C11
open Cellml.Clone

/-- C11-1: content is preserved by the clone of a units, a variable, a reset (including whether its order is set)
    and a component tree (including encapsulation ids and resets re-targeted by index) -/
theorem C11_units (e : Nat) (u : Units) : eUnits (cloneUnits true e u) = eUnits u := eUnits_clone true e u
theorem C11_variable (e : Nat) (v : Variable) : eVariable (cloneVariable true e v) = eVariable v :=
  eVariable_clone true e v
theorem C11_reset (e : Nat) (r : Reset) : eReset (cloneReset true e r) = eReset r := eReset_clone true e r
theorem C11_reset_order (e : Nat) (r : Reset) : (cloneReset true e r).order = r.order := rfl
theorem C11_component (e f : Nat) (c : Component) (h : WithinDepth f c) :
    eComponent f (cloneComponent true e f c) = eComponent f c :=
  -- `h` is not used: see the base case of `eComponent_clone`
  eComponent_clone true e f c

/-- every variable of the tree that names units defined in the model holds units with the content of the model's -/
def Consistent (mu : List Units) : Nat → Component → Prop
  | 0, _ => True
  | f+1, .mk _ _ _ _ _ _ vars _ kids =>
    (∀ v ∈ vars, ∀ u, v.units = some u → ∀ m, mu.find? (·.name = u.name) = some m → eUnits m = eUnits u) ∧
    (∀ k ∈ kids, Consistent mu f k)

def eModel (f : Nat) (m : Model) : Model :=
  { m with ep := 0, units := m.units.map eUnits, comps := m.comps.map (eComponent f) }

theorem eComponent_relink (s : Bool) (e : Nat) (mu : List Units) (f : Nat) (c : Component) (hc : Consistent mu f c) :
    eComponent f (relinkComponent (mu.map (cloneUnits s e)) f (cloneComponent s e f c)) = eComponent f c := by
  induction f generalizing c with
  | zero => rfl
  | succ f ih =>
    cases c
    simp only [cloneComponent, relinkComponent, eComponent, List.map_map, Function.comp_def, eImp_clone, eReset_clone]
    congr 1
    · exact List.map_congr_left fun v hv => eVariable_relink s e mu v (hc.1 v hv)
    · exact List.map_congr_left fun k hk => ih k (hc.2 k hk)

/-- C11-2: the clone of a model has the content of the model — names, ids, encapsulation ids, units, the component
    hierarchy with variables and resets, and **all variable equivalences** (by position) — whenever variables that
    name units of the model hold units with that content (what the parser and `linkUnits` establish) -/
theorem C11_model (e f : Nat) (m : Model) (hd : ∀ c ∈ m.comps, WithinDepth f c)
    (hc : ∀ c ∈ m.comps, Consistent m.units f c) :
    eModel f (cloneModel true e f m) = eModel f m := by
  -- `hd` is not used, as in `C11_component`
  simp only [eModel, cloneModel, List.map_map, Function.comp_def, eUnits_clone]
  congr 1
  exact List.map_congr_left fun c hcm => eComponent_relink true e m.units f c (hc c hcm)

theorem C11_model_equivalences (e f : Nat) (m : Model) : (cloneModel true e f m).equivs = m.equivs := rfl

/-- C11-3: independence — every entity reachable from the clone was created by the `clone()` call … -/
theorem C11_fresh_component (e f : Nat) (c : Component) : ∀ p ∈ epsComponent f (cloneComponent true e f c), p = e :=
  epsComponent_clone true e f c
theorem C11_fresh_units (e : Nat) (u : Units) : ∀ p ∈ epsUnits (cloneUnits true e u), p = e :=
  epsUnits_clone true e u
theorem C11_fresh_variable (e : Nat) (v : Variable) : ∀ p ∈ epsVariable (cloneVariable true e v), p = e :=
  epsVariable_clone true e v
theorem C11_fresh_reset (e : Nat) (r : Reset) : ∀ p ∈ epsReset (cloneReset true e r), p = e :=
  epsReset_clone true e r

/-- … **except** import sources, which the current code shares between original and clone (known finding):
    the clone's import sources are the original's objects; cloning them (`Fixed_cloneImportSource`: `shareImp = false`)
    makes them fresh -/
theorem C11_import_sources_shared (e : Nat) (i : Imp) : impEps (cloneImp true e i) = impEps i := impEps_shared e i
theorem C11_import_sources_fixed (e : Nat) (i : Imp) : ∀ p ∈ impEps (cloneImp false e i), p = e := impEps_fixed e i

/-- refutation of full independence on the current tree: an imported units created in epoch 3, cloned in epoch 7,
    still holds the import source of epoch 3 -/
theorem C11_independence_refuted :
    impEps (cloneUnits true 7 ⟨3, "", "u", ⟨some ⟨3, "", "lib.cellml"⟩, "r"⟩, []⟩).imp = [3] := by decide

example : WithinDepth 2 (.mk 1 "" "c" "e1" "" ⟨none, ""⟩ [] []
    [.mk 1 "" "k" "" "" ⟨none, ""⟩ [] [⟨1, "", none, "", "", "", "", .own 0, .none_⟩] []]) := by
  intro c hc
  rw [List.mem_singleton] at hc
  subst hc
  intro k hk
  cases hk

/-- T-tie: the setters and adders each `clone()` calls are the ones the clone model (`Cellml/Clone/Model.lean`) copies
    with: identifier, name, import source and reference and the unit children of a units; identifier, name, initial
    value, interface type and units of a variable; the seven fields of a reset plus its two variables; identifier, name,
    math, encapsulation identifier, import, variables, resets (re-linked to the cloned variables) and child components
    of a component; identifier, name, encapsulation identifier, units and components of a model (equivalences are
    re-made from the index-stack map).  A setter added to or dropped from the code re-opens this obligation. -/
theorem clone_fields_as_modelled :
    Cellml.Generated.CloneFields.rows =
      [("Units", ["addUnit", "setId", "setImportReference", "setImportSource", "setName"]),
        ("Variable", ["clone", "setId", "setInitialValue", "setInterfaceType", "setName", "setUnits"]),
        ("Reset", ["clone", "setId", "setOrder", "setResetValue", "setResetValueId", "setTestValue", "setTestValueId",
          "setTestVariable", "setVariable"]),
        ("Component", ["addComponent", "addReset", "addVariable", "clone", "setEncapsulationId", "setId",
          "setImportReference", "setImportSource", "setMath", "setName", "setTestVariable", "setVariable",
          "testVariable", "variable"]),
        ("Model", ["addComponent", "addUnits", "clone", "component", "componentCount", "setEncapsulationId", "setId",
          "setName", "variable"]),
        ("ImportSource", ["setId", "setModel", "setUrl"])] :=
  rfl

/-- C11-4: the clone of a units / a variable equals the original (both directions, `equals` being symmetric:
    `Props.C10.C10_units_equivalence`); `toEq*` forgets object identity only (`Clone/Bridge.lean`) -/
theorem C11_units_equals (e : Nat) (u : Units) :
    Equals.eqUnits (toEqUnits (cloneUnits true e u)) (toEqUnits u) = true := by
  rw [toEqUnits_congr (eUnits_clone true e u)]
  exact (Equals.eqUnits_iff _ _).mpr (Equals.IsoUnits.equivalence.refl _)

theorem C11_variable_equals (e : Nat) (v : Variable) :
    Equals.eqVariable (toEqVariable (cloneVariable true e v)) (toEqVariable v) = true := by
  rw [toEqVariable_congr (eVariable_clone true e v)]
  exact (Equals.eqVariable_iff _ _).mpr (Equals.IsoVariable.equivalence.refl _)

/-- non-vacuity: the bridge keeps every attribute `equals()` reads (a changed prefix is seen through it) -/
example : Equals.eqUnits (toEqUnits ⟨1, "i", "u", ⟨none, ""⟩, [⟨"metre", "kilo", "", "1", "1"⟩]⟩)
    (toEqUnits ⟨2, "i", "u", ⟨none, ""⟩, [⟨"metre", "milli", "", "1", "1"⟩]⟩) = false := by decide

end Cellml.Props.C11
