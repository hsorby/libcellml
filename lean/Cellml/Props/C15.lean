/-
  C15 — issue reporting is coherent: property theorems.

  Model: `Cellml/Logger/Model.lean` (= `LoggerImpl` of src/logger.cpp, tied by engine `logger`
  through hook H1 on every logger operation of every traced service call).
-/
import Cellml.Logger.Proofs
import Cellml.Generated.Rules
import Cellml.Generated.ElementTypes
namespace Cellml.Props.C15
open Cellml.Logger

/-- C15-1a: a fresh logger is coherent -/
theorem C15_init : Coherent init := coherent_init

/-- C15-1b: `addIssue` preserves coherence -/
theorem C15_add (s : LState) (l : Level) (h : Coherent s) : Coherent (add s l) := coherent_add s l h

/-- C15-1c: `removeAllIssues` establishes coherence -/
theorem C15_removeAll (s : LState) : Coherent (removeAll s) := coherent_init

/-- C15-2: `removeError` keeps coherence **iff** it erases the last issue (nothing is re-based) -/
theorem C15_removeError_iff (s : LState) (k p : Nat) (h : Coherent s) (hk : s.errs[k]? = some p) :
    Coherent { s with issues := s.issues.eraseIdx p, errs := s.errs.eraseIdx k } ↔ p + 1 = s.issues.length :=
  removeError_coherent_iff s k p h hk

/-- C15-2': every history of logger operations whose removals are tail removals (what the importer
    does; asserted on every real trace by the engine) never throws and ends in a coherent logger -/
theorem C15_histories (ops : List Op) (h : tailRemovalsOnly init ops = true) :
    ∃ s, run init ops = some s ∧ Coherent s := run_coherent ops init coherent_init h

/-- C15-3a: issueCount = errorCount + warningCount + messageCount -/
theorem C15_counts (s : LState) (h : Coherent s) :
    issueCount s = errorCount s + warningCount s + messageCount s := counts s h

/-- C15-3b: `error(i)` / `warning(i)` / `message(i)` enumerate exactly the issues of that level, in
    order; an index past the end gives null (`none` on both sides) -/
theorem C15_error_enumerates (s : LState) (h : Coherent s) (i : Nat) :
    (errorAt s i).bind (s.issues[·]?) = (s.issues.filter (· = Level.error))[i]? := by
  rw [errorAt_eq]
  exact idx_enumerates h.1 i
theorem C15_warning_enumerates (s : LState) (h : Coherent s) (i : Nat) :
    (warningAt s i).bind (s.issues[·]?) = (s.issues.filter (· = Level.warning))[i]? := by
  rw [warningAt_eq]
  exact idx_enumerates h.2.1 i
theorem C15_message_enumerates (s : LState) (h : Coherent s) (i : Nat) :
    (messageAt s i).bind (s.issues[·]?) = (s.issues.filter (· = Level.message))[i]? := by
  rw [messageAt_eq]
  exact idx_enumerates h.2.2 i

/-- C15-3c: an index within range returns a real issue (not null) and that issue has the level asked for -/
theorem C15_error_in_range (s : LState) (h : Coherent s) (i : Nat) (hi : i < errorCount s) :
    ∃ p, errorAt s i = some p ∧ s.issues[p]? = some Level.error := by
  rw [errorAt_eq]
  exact idx_in_range h.1 hi

theorem C15_warning_in_range (s : LState) (h : Coherent s) (i : Nat) (hi : i < warningCount s) :
    ∃ p, warningAt s i = some p ∧ s.issues[p]? = some Level.warning := by
  rw [warningAt_eq]
  exact idx_in_range h.2.1 hi

theorem C15_message_in_range (s : LState) (h : Coherent s) (i : Nat) (hi : i < messageCount s) :
    ∃ p, messageAt s i = some p ∧ s.issues[p]? = some Level.message := by
  rw [messageAt_eq]
  exact idx_in_range h.2.2 hi

theorem C15_out_of_range (s : LState) (i : Nat) (h : errorCount s ≤ i) : errorAt s i = none :=
  (errorAt_eq s i).trans (List.getElem?_eq_none h)

theorem C15_warning_out_of_range (s : LState) (i : Nat) (h : warningCount s ≤ i) : warningAt s i = none :=
  (warningAt_eq s i).trans (List.getElem?_eq_none h)

theorem C15_message_out_of_range (s : LState) (i : Nat) (h : messageCount s ≤ i) : messageAt s i = none :=
  (messageAt_eq s i).trans (List.getElem?_eq_none h)

/-- C15-3d: no issue is reported at two indices of one level (the per-level lists have no duplicates) -/
theorem C15_no_issue_twice (s : LState) (h : Coherent s) : s.errs.Nodup ∧ s.warns.Nodup ∧ s.msgs.Nodup := by
  obtain ⟨h1, h2, h3⟩ := h
  rw [h1, h2, h3]
  exact ⟨idx_nodup _ _, idx_nodup _ _, idx_nodup _ _⟩

/-- C15-1d: after `removeAllIssues` every count is 0 and every accessor returns null, whatever was logged before -/
theorem C15_removeAll_empty (s : LState) (i : Nat) :
    issueCount (removeAll s) = 0 ∧ errorCount (removeAll s) = 0 ∧ warningCount (removeAll s) = 0 ∧
    messageCount (removeAll s) = 0 ∧ errorAt (removeAll s) i = none ∧ warningAt (removeAll s) i = none ∧
    messageAt (removeAll s) i = none := by
  simp [removeAll, init, issueCount, errorCount, warningCount, messageCount, errorAt, warningAt, messageAt]

/-- C15-4a (table regenerated from issue.h / issue.cpp): every `ReferenceRule` enumerator has a row
    of four strings in `ruleToInformation`, so `referenceHeading()` and `url()` cannot throw -/
theorem C15_rules_total :
    ∀ r ∈ Cellml.Generated.Rules.allRules, (Cellml.Generated.Rules.rowKeys.lookup r) = some 4 := by
  open Generated.Rules in
  first
  | -- `ruleToInformation` lists the rules in the order of the enumeration (`rfl` compares the names as literals), so
    -- the search for a rule ends at some row, and every row has four strings
    have keys : allRules = rowKeys.map (·.1) := rfl
    have four : ∀ p ∈ rowKeys, p.2 = 4 := by decide +kernel
    intro r hr
    obtain ⟨p, hp, hl⟩ := exists_lookup (keys ▸ hr)
    rw [hl, four p hp]
  | -- a tree that lists the rows in another order: the searches themselves, evaluated (far dearer)
    decide +kernel

/-- C15-4b: every `CellmlElementType` enumerator has a string -/
theorem C15_element_types_total :
    ∀ t ∈ Cellml.Generated.ElementTypes.allElementTypes,
      (Cellml.Generated.ElementTypes.stringRows.lookup t).isSome = true := by
  decide +kernel

/-- the three levels of the header are the three levels of the model -/
theorem C15_levels : Cellml.Generated.Rules.allLevels = ["ERROR", "WARNING", "MESSAGE"] := rfl

/-! non-vacuity: a history with a tail removal (the importer's pruning loop) and one without -/
example : tailRemovalsOnly init [.add .message, .add .error, .add .error, .removeError 1, .removeError 0, .add .warning] = true := by decide
example : tailRemovalsOnly init [.add .error, .add .warning, .removeError 0] = false := by decide
/-- the non-tail removal really breaks the observers: `warning(0)` then points past the end -/
example : (run init [.add .error, .add .warning, .removeError 0]).map (fun s => (warningAt s 0).bind (s.issues[·]?)) = some none := by decide

end Cellml.Props.C15
