/-
  C13 — identifier assignment is complete, unique and non-destructive: property theorems.
  Model: `Cellml/Annot/Model.lean` (= the identifier bookkeeping of src/annotator.cpp after the three fixes
  14f446f, e6afb92, c649333), tied by engine `annot` on exact identifiers.
-/
import Cellml.Annot.Proofs
namespace Cellml.Props.C13
open Cellml.Annot

/-- C13-1: `makeUniqueId` terminates (within `|list| + 1` increments) with an identifier not in the list -/
theorem C13_makeUniqueId (cache : List String) (c : Nat) :
    (makeUnique cache (cache.length + 1) c).1 = hexStr (makeUnique cache (cache.length + 1) c).2 ∧
    c ≤ (makeUnique cache (cache.length + 1) c).2 ∧ (makeUnique cache (cache.length + 1) c).1 ∉ cache := by
  obtain ⟨n, h, hc, hn, -⟩ := makeUnique_spec cache c
  rw [h]
  exact ⟨rfl, hc, hn⟩

/-- C13-6 (printer): the identifiers `printModel(model, true)` hands out to the `k` elements that lack one are `k`
    pairwise different identifiers, none of which is present in the model -/
theorem C13_printer_fresh (existing : List String) (k : Nat) :
    (freshIds existing k).length = k ∧ (freshIds existing k).Nodup ∧ ∀ x ∈ freshIds existing k, x ∉ existing := by
  induction k generalizing existing with
  | zero => simp [freshIds]
  | succ k ih =>
    obtain ⟨n, hn, -, hf, -⟩ := makeUnique_spec existing 0xb4da55
    obtain ⟨h1, h2, h3⟩ := ih (hexStr n :: existing)
    simp only [freshIds, hn]
    refine ⟨by simp [h1], ?_, ?_⟩
    · refine List.nodup_cons.mpr ⟨fun hm => ?_, h2⟩
      exact h3 _ hm (List.mem_cons_self ..)
    · intro x hx
      rcases List.mem_cons.mp hx with rfl | hx
      · exact hf
      · exact fun hm => h3 x hx (List.mem_cons_of_mem _ hm)

/-- the rendering of the counter is injective (two counter values never give the same identifier) -/
theorem C13_rendering_injective (m n : Nat) (h : hexStr m = hexStr n) : m = n := hexStr_inj m n h

/-- C13-2: in **every** history of setModel / model edits / assignments / clearAllIds / lookups the
    annotator's list is synchronised with the model state it was computed from … -/
theorem C13_history_sync (sh : Shape) (ops : List Op) : Sync (run true sh init ops) :=
  run_sync sh ops init trivial

/-- … therefore `assignAllIds()` at any point of any history: every slot reached by the traversal ends up with
    an identifier; identifiers that existed at the time of the call are unchanged; every identifier assigned
    by the call occurs exactly once in the model afterwards, i.e. differs from every identifier present at the
    time of the call (wherever it came from, including edits made after `setModel`) and from the other new ones -/
theorem C13_assignAll (sh : Shape) (ops : List Op) :
    let s := run true sh init ops
    let s' := (assignAll true sh s).1
    s.hasModel = true →
      (∀ i, i ∈ sh.visits → i < s.ids.length → s'.ids.getD i "" ≠ "") ∧
      (∀ j, s.ids.getD j "" ≠ "" → s'.ids.getD j "" = s.ids.getD j "") ∧
      (∀ j, s.ids.getD j "" = "" → s'.ids.getD j "" ≠ "" → s'.ids.count (s'.ids.getD j "") = 1) ∧
      s'.ids.length = s.ids.length := by
  intro s s' hm
  have hs' : s'.ids = (visitAll (update s) sh.visits).ids := by
    simp only [s', assignAll, hm, Bool.not_true, Bool.false_eq_true, if_false, if_true]
  obtain ⟨h1, h2, h3, -, h5⟩ := assign_spec sh.visits s (C13_history_sync sh ops) hm
  rw [hs']
  exact ⟨h1, h2, h3, h5⟩

/-- C13-3: `assignIds(type)` at any point of any history: every slot of the requested kind reached by the
    traversal ends up with an identifier; identifiers that existed at the time of the call are unchanged; every
    identifier assigned by the call occurs exactly once in the model afterwards; **slots of every other kind are
    left exactly as they were** (also the empty ones). -/
theorem C13_assignIds (sh : Shape) (ops : List Op) (kind : Nat) :
    let s := run true sh init ops
    let s' := (assignIds true sh s kind).1
    s.hasModel = true →
      (∀ i, i ∈ sh.visits → sh.kinds.getD i 0 = kind → i < s.ids.length → s'.ids.getD i "" ≠ "") ∧
      (∀ j, s.ids.getD j "" ≠ "" → s'.ids.getD j "" = s.ids.getD j "") ∧
      (∀ j, s.ids.getD j "" = "" → s'.ids.getD j "" ≠ "" → s'.ids.count (s'.ids.getD j "") = 1) ∧
      (∀ j, sh.kinds.getD j 0 ≠ kind → s'.ids.getD j "" = s.ids.getD j "") ∧
      s'.ids.length = s.ids.length := by
  intro s s' hm
  have hs' : s'.ids = (visitAll (update s) (sh.visits.filter fun i => sh.kinds.getD i 0 = kind)).ids := by
    simp only [s', assignIds, hm, Bool.not_true, Bool.false_eq_true, if_false, if_true, setModel_ids]
  obtain ⟨h1, h2, h3, h4, h5⟩ := assign_spec (sh.visits.filter fun i => sh.kinds.getD i 0 = kind) s
    (C13_history_sync sh ops) hm
  rw [hs']
  refine ⟨?_, h2, h3, ?_, h5⟩
  · intro i hi hk
    exact h1 i (List.mem_filter.mpr ⟨hi, by simpa using hk⟩)
  · intro j hk
    refine h4 j fun hin => hk ?_
    simpa using (List.mem_filter.mp hin).2

/-- `assignId(item)`: the item gets an identifier that no item of the model carried at the time of the call,
    every other identifier is unchanged -/
theorem C13_assignId (sh : Shape) (ops : List Op) (i : Nat) :
    let s := run true sh init ops
    s.hasModel = true → i < s.ids.length →
      (assignId s i).2 ≠ "" ∧ (assignId s i).2 ∉ s.ids ∧ (assignId s i).1.ids = s.ids.set i (assignId s i).2 := by
  intro s hm hlt
  obtain ⟨h1, h2, h3, -⟩ := assignId_spec s i (C13_history_sync sh ops) hm hlt
  exact ⟨h1, h2, h3⟩

/-- lookups after any history: `itemCount(id)` counts the items carrying `id`; `item(id)` returns an item that
    carries `id`, and only when exactly one does -/
theorem C13_lookups (sh : Shape) (ops : List Op) (id : String) (hid : id ≠ "") :
    let s := run true sh init ops
    s.hasModel = true →
      (itemCount s id).2 = s.ids.count id ∧
      (∀ k, (item s id).2 = some k → s.ids.getD k "" = id ∧ s.ids.count id = 1) := by
  intro s hm
  have hu := update_cache s (C13_history_sync sh ops) hm
  have hcount : (update s).cache.count id = s.ids.count id := by
    rw [hu.count_eq id, nonEmpty, List.count_filter]
    simpa using hid
  refine ⟨hcount, fun k hk => ?_⟩
  simp only [item] at hk
  split at hk
  next h1 =>
    rw [update_ids] at hk
    obtain ⟨hlt, hp, -⟩ := List.findIdx?_eq_some_iff_getElem.mp hk
    refine ⟨?_, hcount ▸ h1⟩
    rw [List.getD_eq_getElem?_getD, List.getElem?_eq_getElem hlt]
    simpa using hp
  next => cases hk

/-! ### the superseded behaviour (no refresh before assignment; repaired by 14f446f): kernel-checked witness.
    `setModel` on a model with two empty slots, the user sets slot 1 to `b4da55`, `assignAllIds` hands out
    `b4da55` again for slot 0. -/
def wShape : Shape := ⟨[7, 0], [0, 1]⟩

theorem C13_stale_refuted :
    (run false wShape init [.setModel ["", ""], .edit 1 (hexStr 0xb4da55), .assignAll]).ids = [hexStr 0xb4da55, hexStr 0xb4da55] ∧
    (run true wShape init [.setModel ["", ""], .edit 1 (hexStr 0xb4da55), .assignAll]).ids = [hexStr 0xb4da56, hexStr 0xb4da55] := by
  constructor <;> decide +kernel

example : hexStr 0xb4da55 = "b4da55" := by decide +kernel

end Cellml.Props.C13
