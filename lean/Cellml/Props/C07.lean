/-
  C07 — import resolution terminates, succeeds exactly when possible, reports failures: property theorems about the
  model of `Importer::resolveImports` (`Cellml/Import/Model.lean`, tied to the implementation by engine `world`: status
  and the reference rules of the issues on every generated world).

  * termination: the recursion of `resolve` is never cut short by its fuel (`resolve_terminates`), for every world —
    missing files, foreign files, self-imports and import cycles of any length included; the only hypothesis is that
    the encapsulation hierarchy of each file is a tree (a rank that decreases from a component to its children, which
    C09 establishes for the object graph);
  * success is exact (`units_fetched_iff`, `component_fetched_iff`: an item is fetched iff a finite, fuel-free
    derivation `UOk` / `COk` exists) — in particular along import chains (`units_ok_chain`, `component_ok_chain`): when an item is
    fetched, the chain of imports that starts at it exists link by link and ends in an entity that is not imported — in
    particular no chain of imports that returns to its start is ever accepted (`self_import_refused`); that `UOk` /
    `COk` coincide with "every transitive import can be satisfied" of the independent oracle (a graph formulation, with
    the known finding about units that are not imported) is compared on the implementation (checks/C07.py);
  * failures are reported with their reason (`missing_file_reported`, `not_xml_reported`, `missing_units_reported`,
    `missing_component_reported`, `file_cycle_reported`), and `resolveImports` is true exactly when no item fails
    (`status_iff`).
-/
import Cellml.Import.Exact
namespace Cellml.Props.C07
open Cellml.Import

/-- **termination**: no imported item of the origin exhausts the fuel -/
theorem resolve_terminates (w : World) (origin : String) (h : String × String → Nat) (hr : Ranked w h (compBound w)) :
    ∀ r ∈ resolve w origin, r ≠ .fuel := by
  intro r hmem
  unfold resolve at hmem
  split at hmem
  next us cs hlk =>
    simp only [List.mem_append, List.mem_map, List.mem_filter] at hmem
    rcases hmem with ⟨u, _, rfl⟩ | ⟨c, ⟨hc, _⟩, rfl⟩
    · exact fetchUnits_fuelFor w origin u
    · exact fetchComponent_fuelFor w origin h hr c ⟨us, cs, hlk, hc⟩
  · cases hmem

/-- `resolveImports` returns true exactly when every imported item of the origin was fetched -/
theorem status_iff (rs : List R) : status rs = true ↔ ∀ r ∈ rs, r = .ok := by
  simp [status]

/-- the chain of imports that starts at a units exists link by link and ends in units that are not imported -/
inductive UChain (w : World) : UnitsE → Prop
  | stop {u : UnitsE} : u.imp = none → UChain w u
  | step {u su : UnitsE} {url ref : String} {us : List UnitsE} {cs : List CompE} :
      u.imp = some (url, ref) → w.lookup url = some (.model us cs) → findU us ref = some su → UChain w su → UChain w u

inductive CChain (w : World) : CompE → Prop
  | stop {c : CompE} : c.imp = none → CChain w c
  | step {c sc : CompE} {url ref : String} {us : List UnitsE} {cs : List CompE} :
      c.imp = some (url, ref) → w.lookup url = some (.model us cs) → findC cs ref = some sc → CChain w sc → CChain w c

theorem UOk_chain {w : World} {path : List String} {cur : String} {u : UnitsE} (h : UOk w path cur u) : UChain w u := by
  induction h with
  | notImported himp => exact .stop himp
  | @imported path cur u su url ref us cs himp hlk _ hf _ _ _ ihsu _ => exact .step himp hlk hf ihsu

theorem COk_chain {w : World} {path : List String} {cur : String} {c : CompE} (h : COk w path cur c)
    (hcur : ∃ us cs, w.lookup cur = some (.model us cs)) : CChain w c := by
  induction h with
  | noModel hno =>
    obtain ⟨us, cs, h⟩ := hcur
    exact absurd h (hno us cs)
  | @noImports _ _ c _ cs _ hreq =>
    cases himp : c.imp with
    | none => exact .stop himp
    | some x =>
      rw [reqImp_of_imp himp] at hreq
      cases hreq
  | localKids _ himp _ _ => exact .stop himp
  | @imported path cur c sc url ref us us' cs cs' _ himp hlk _ hf _ _ _ _ ihsc _ _ =>
    exact .step himp hlk hf (ihsc ⟨us', cs', hlk⟩)

theorem units_ok_chain : ∀ (n : Nat) (w : World) (path : List String) (cur : String) (u : UnitsE),
    fetchUnits n w path cur u = .ok → UChain w u :=
  fun n w path cur u h => UOk_chain (fetchUnits_sound n w path cur u h)

theorem component_ok_chain : ∀ (n : Nat) (w : World) (path : List String) (cur : String) (c : CompE),
    (∃ us cs, w.lookup cur = some (.model us cs)) →
    fetchComponent n w path cur c = .ok → CChain w c :=
  fun n w path cur c hcur h => COk_chain (fetchComponent_sound n w path cur c h) hcur

/-- **exactness for units imports**: with the fuel of `resolve`, an imported units of the origin is fetched exactly when
    it has a finite derivation `UOk` — every file on the way is a model and is not a file the descent came through,
    every referenced units exists, and the import of every target and of every imported child of a target is fetched in turn.
    (The fuel never turns a possible success into a failure, nor the reverse.) -/
theorem units_fetched_iff (w : World) (origin : String) (u : UnitsE) :
    fetchUnits (fuelFor w) w [] origin u = .ok ↔ UOk w [] origin u :=
  fetchUnits_ok_iff (fetchUnits_fuelFor w origin u)

/-- **exactness for component imports**: an imported component of the origin is fetched exactly when it has a finite
    derivation `COk` (the file is a model not yet on the path, the referenced component exists, its own import, its
    encapsulated children and the units used in its subtree are fetched in turn) -/
theorem component_fetched_iff (w : World) (origin : String) (h : String × String → Nat) (hr : Ranked w h (compBound w))
    (c : CompE) (hin : InFileC w origin c) :
    fetchComponent (fuelFor w) w [] origin c = .ok ↔ COk w [] origin c :=
  fetchComponent_ok_iff (fetchComponent_fuelFor w origin h hr c hin)

/-- a units that imports itself (its own file, its own name) is never fetched, whatever the fuel and the history -/
theorem self_import_refused (w : World) (f : String) (us : List UnitsE) (cs : List CompE) (u : UnitsE)
    (hlk : w.lookup f = some (.model us cs)) (hf : findU us u.name = some u) (himp : u.imp = some (f, u.name)) :
    ∀ n path, fetchUnits n w path f u ≠ .ok := by
  intro n
  induction n with
  | zero =>
    intro path h
    cases h
  | succ n ih =>
    -- fetching `u` asks for `u` to be fetched with the fuel that is left
    intro path h
    unfold fetchUnits at h
    simp only [himp, hlk, hf] at h
    by_cases hp : path.contains f = true
    · rw [if_pos hp] at h
      cases h
    · rw [if_neg hp] at h
      exact ih _ (seqR_ok_iff.mp h).1

theorem missing_file_reported (n : Nat) (w : World) (path : List String) (cur : String) (u : UnitsE)
    (url ref : String) (himp : u.imp = some (url, ref)) (hlk : w.lookup url = none ∨ w.lookup url = some .missing) :
    fetchUnits (n + 1) w path cur u = .fail .missingFile := by
  unfold fetchUnits
  rcases hlk with h | h <;> simp [himp, h]

theorem not_xml_reported (n : Nat) (w : World) (path : List String) (cur : String) (u : UnitsE)
    (url ref : String) (himp : u.imp = some (url, ref)) (hlk : w.lookup url = some .notXml) :
    fetchUnits (n + 1) w path cur u = .fail .nullModel := by
  unfold fetchUnits
  simp [himp, hlk]

theorem file_cycle_reported (n : Nat) (w : World) (path : List String) (cur : String) (u : UnitsE)
    (url ref : String) (us : List UnitsE) (cs : List CompE) (himp : u.imp = some (url, ref))
    (hlk : w.lookup url = some (.model us cs)) (hp : url ∈ path) :
    fetchUnits (n + 1) w path cur u = .fail .cycle := by
  unfold fetchUnits
  simp [himp, hlk, hp]

theorem missing_units_reported (n : Nat) (w : World) (path : List String) (cur : String) (u : UnitsE)
    (url ref : String) (us : List UnitsE) (cs : List CompE) (himp : u.imp = some (url, ref))
    (hlk : w.lookup url = some (.model us cs)) (hp : ¬ url ∈ path) (hf : findU us ref = none) :
    fetchUnits (n + 1) w path cur u = .fail .missingUnits := by
  unfold fetchUnits
  simp [himp, hlk, hp, hf]

theorem missing_component_reported (n : Nat) (w : World) (path : List String) (cur : String) (c : CompE)
    (url ref : String) (us0 us : List UnitsE) (cs0 cs : List CompE) (hcur : w.lookup cur = some (.model us0 cs0))
    (himp : c.imp = some (url, ref)) (hlk : w.lookup url = some (.model us cs)) (hp : ¬ url ∈ path)
    (hf : findC cs ref = none) :
    fetchComponent (n + 1) w path cur c = .fail .missingComponent := by
  unfold fetchComponent
  simp [hcur, reqImp_of_imp himp, himp, hlk, hp, hf]

def wOK : World :=
  [("f0", .model [{ name := "a", imp := some ("f1", "b") }] [{ name := "c", imp := some ("f1", "d") }]),
   ("f1", .model [{ name := "b", imp := some ("f2", "u") }] [{ name := "d", kids := ["e"], units := ["b"] }, { name := "e" }]),
   ("f2", .model [{ name := "u" }] [])]

example : resolve wOK "f0" = [.ok, .ok] := by decide +kernel
example : resolve [("f0", .model [{ name := "a", imp := some ("f0", "a") }] [])] "f0" = [.fail .cycle] := by decide
example : resolve [("f0", .model [{ name := "a", imp := some ("f1", "a") }] [])] "f0" = [.fail .missingFile] := by
  decide
example : resolve [("f0", .model [{ name := "a", imp := some ("f1", "a") }] []),
    ("f1", .model [{ name := "a", kids := ["a"] }] [])] "f0" = [.ok] := by decide

/-- the hypothesis of `resolve_terminates` is met by `wOK`: rank 1 for `d`, 0 for everything else -/
example : Ranked wOK (fun p => if p = ("f1", "d") then 1 else 0) (compBound wOK) := by
  refine ⟨fun p => by simp only [compBound, wOK]; split <;> decide, ?_⟩
  -- `Ranked` speaks of every `us cs` a lookup may give, so `decide` does not apply
  intro f us cs c k kc hlk hc hk hf
  have hm := lookup_mem hlk
  simp only [wOK, List.mem_cons, Prod.mk.injEq, FileC.model.injEq, List.not_mem_nil, or_false] at hm
  rcases hm with ⟨rfl, rfl, rfl⟩ | ⟨rfl, rfl, rfl⟩ | ⟨rfl, rfl, rfl⟩
  · simp only [List.mem_cons, List.not_mem_nil, or_false] at hc
    subst hc
    simp at hk
  · simp only [List.mem_cons, List.not_mem_nil, or_false] at hc
    rcases hc with rfl | rfl
    · simp only [List.mem_cons, List.not_mem_nil, or_false] at hk
      subst hk
      obtain rfl : kc = { name := "e" } := Option.some.inj (hf.symm.trans (by decide))
      decide
    · simp at hk
  · simp at hc

end Cellml.Props.C07
