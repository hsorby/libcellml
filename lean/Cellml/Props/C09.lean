/-
  C09 — ownership invariants survive any API history: property theorems.
  Model: `Cellml/Heap/Model.lean` (the mutators of componententity / component / model / variable .cpp after the
  repairs), tied by engine `heap` on full graph dumps after every operation of generated histories.
  Partial: memory safety on bad arguments is runtime behaviour the model cannot exhibit — the model says "refused,
  unchanged", the harness observes crashes.  `replaceComponent` / `replaceUnits` are operations of the step theorem.
-/
import Cellml.Heap.Step
namespace Cellml.Props.C09
open Cellml.Heap

variable {kindOf : Nat → CK}

/-- C09-1: every valid operation preserves: listed ⇒ parent, no entity listed twice, lists well-typed, equivalence
    symmetric (for *any* notion of structural look-alike used by the pointer lookups) -/
theorem C09_step (look : Look) (nameOf : Nat → String) (fuel : Nat) (h : Heap) (op : Op)
    (hi : Inv kindOf h) (hnd : EqNodup h) (hv : Valid kindOf h op) :
    Inv kindOf (step look nameOf fuel h op).1 ∧ EqNodup (step look nameOf fuel h op).1 :=
  step_inv look nameOf fuel h op hi hnd hv

/-- C09-2: … hence after every history (induction over the operations), from the empty object graph -/
theorem C09_histories (look : Look) (nameOf : Nat → String) (fuel : Nat) (ops : List Op)
    (hv : AllValid kindOf look nameOf fuel empty ops) :
    Inv kindOf (run look nameOf fuel empty ops) ∧ EqNodup (run look nameOf fuel empty ops) :=
  run_inv look nameOf fuel ops empty (empty_inv (kindOf := kindOf)).1 (empty_inv (kindOf := kindOf)).2 hv

/-- … in particular no entity is listed by two containers or in two lists -/
theorem C09_one_container (h : Heap) (hi : Inv kindOf h) (c c' : Nat) (k k' : CK) (x : Nat)
    (h1 : x ∈ h.kids c k) (h2 : x ∈ h.kids c' k') : c = c' ∧ k = k' := hi.one_container h1 h2

/-- C09-3: the component hierarchy stays acyclic under `addComponent` (self and ancestor insertion are refused),
    under every removal, and when leaves are added or something is added under a root -/
theorem C09_addComponent_acyclic (look : Look) (fuel : Nat) (h : Heap) (c x : Nat) (ha : Acyclic h) :
    Acyclic (addComponent look fuel h c x).1 := by
  fun_cases addComponent look fuel h c x
  next hself => exact ha
  next hcx hf => exact addChild_acyclic_of ha hcx (hasAncestor_false hf)
  next hcx hnf => exact ha
theorem C09_detach_acyclic (h : Heap) (c : Nat) (k : CK) (y : Nat) (ha : Acyclic h) : Acyclic (detach h c k y) :=
  fun z hz => ha z (detach_anc hz)
theorem C09_addChild_acyclic (look : Look) (h : Heap) (c : Nat) (k : CK) (x : Nat) (ha : Acyclic h) (hne : c ≠ x)
    (hx : (∀ z, h.parent z ≠ some x) ∨ h.parent c = none) : Acyclic (addChild look h c k x).1 := by
  refine addChild_acyclic_of ha hne fun hanc => ?_
  rcases hx with hx | hx
  · obtain ⟨z, hz⟩ := hanc.child
    exact hx z hz
  · obtain ⟨p, hp, _⟩ := hanc.parent
    rw [hx] at hp
    cases hp

theorem C09_replaceComponent_acyclic (look : Look) (fuel : Nat) (h : Heap) (c i x : Nat) (ha : Acyclic h) :
    Acyclic (replaceComponent look fuel h c i x).1 := replaceComponent_acyclic look fuel h c i x ha

/-- C09-1' : the two replacements keep the invariant whatever the replacement's previous owner was (the same
    container included: the child to replace is located again after the replacement has left the list) -/
theorem C09_replace (look : Look) (fuel : Nat) (h : Heap) (c i x : Nat) (hi : Inv kindOf h) :
    (kindOf x = .comp → Inv kindOf (replaceComponent look fuel h c i x).1) ∧
    (kindOf x = .units → Inv kindOf (replaceUnits look h c i x).1) :=
  ⟨replaceComponent_inv look fuel h c i x hi, replaceUnits_inv look h c i x hi⟩

/-- C09-4' (frame): replacing the units at an index by units that nothing owns touches those two objects and that list only -/
theorem C09_replaceUnits_exact (look : Look) (h : Heap) (m i x old : Nat) (hg : (h.kids m .units)[i]? = some old)
    (hxo : x ≠ old) (hp : h.parent x = none) :
    (replaceUnits look h m i x).2 = true ∧
    (replaceUnits look h m i x).1.kids m .units = (h.kids m .units).set i x ∧
    (replaceUnits look h m i x).1.parent x = some m ∧ (replaceUnits look h m i x).1.parent old = none ∧
    (∀ z, z ≠ x → z ≠ old → (replaceUnits look h m i x).1.parent z = h.parent z) ∧
    (∀ c' k', ¬ (c' = m ∧ k' = .units) → (replaceUnits look h m i x).1.kids c' k' = h.kids c' k') :=
  replaceUnits_exact look h m i x old hg hxo hp

/-- C09-4 (frame): removing an object that *is* a child affects exactly that object — it is found as itself, only
    its parent pointer and the one list change -/
theorem C09_remove_child_exact (look : Look) (h : Heap) (c : Nat) (k : CK) (x : Nat) (hx : x ∈ h.kids c k) :
    removePtr look h c k x = (detach h c k x, true) ∧
    (∀ z, z ≠ x → (detach h c k x).parent z = h.parent z) ∧
    (∀ c' k', ¬ (c' = c ∧ k' = k) → (detach h c k x).kids c' k' = h.kids c' k') ∧
    (detach h c k x).kids c k = (h.kids c k).erase x :=
  ⟨removePtr_of_mem hx, fun _ => detach_frame, fun _ _ => detach_kids_other, detach_kids_same h c k x⟩

/-- … an object that is not a child is either refused or matched to a structurally equal child, whose own links are updated -/
theorem C09_remove_nonchild (look : Look) (h : Heap) (c : Nat) (k : CK) (x : Nat) (hx : x ∉ h.kids c k) :
    (removePtr look h c k x = (h, false)) ∨
    (∃ y, y ∈ h.kids c k ∧ look h x y = true ∧ removePtr look h c k x = (detach h c k y, true) ∧ (detach h c k y).parent y = none) := by
  fun_cases removePtr look h c k x
  next y hf =>
    refine .inr ⟨y, findPtr_mem hf, ?_, rfl, detach_parent h c k y⟩
    -- `x` is not a child, so `y` was found as a look-alike
    revert hf
    fun_cases findPtr look h c k x
    next hm => exact absurd hm hx
    next hnm => exact List.find?_some
  next hnotfound => exact .inl rfl

/-- C09-5 (expiry): when the last reference to a parentless variable is dropped, no equivalence list mentions it any
    more and the invariants (symmetry included) still hold -/
theorem C09_release (h : Heap) (v : Nat) (hi : Inv kindOf h) (hnd : EqNodup h) (hp : h.parent v = none) :
    (release h v).2 = true ∧ (∀ x, v ∉ (release h v).1.equiv x) ∧ Inv kindOf (release h v).1 ∧ EqNodup (release h v).1 := by
  have hf := release_forgets h v hp
  refine ⟨hf.1, fun x => ?_, release_inv h v hi hnd, eqNodup_release h v hnd⟩
  exact hf.2.2 x (hnd x)

/-! non-vacuity: a concrete valid history (two models, a component moved between them, a variable, an equivalence) -/
def exKind (x : Nat) : CK := if x < 5 then .comp else if x < 8 then .var else if x < 10 then .units else .reset
def exLook : Look := fun _ _ _ => false
def exOps : List Op := [.addToModel 0 2, .addComponent 2 3, .addVariable 3 5, .addToModel 1 3, .addVariable 2 6, .addEquivalence 5 6, .addEquivalence 5 7, .release 7, .removeAllEquivalences 5, .addToModel 0 4,
  .replaceComponent 0 0 4, .addUnits 0 8, .addUnits 1 9, .replaceUnits 0 0 9, .removePtr 1 .comp 3]
example : AllValid exKind exLook (fun _ => "") 16 empty exOps := by
  simp only [exOps, AllValid, Valid]
  decide +kernel

end Cellml.Props.C09
