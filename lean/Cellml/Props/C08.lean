/-
  C08 — unit compatibility and scaling obey the algebra of units: property theorems.
  Model: `Cellml/Units/Model.lean` (= units.cpp), standard tables regenerated from utilities.h.
-/
import Cellml.Units.Laws
import Cellml.Lists
import Cellml.Generated.StdUnits
namespace Cellml.Props.C08
open Cellml.Units

variable (cx : Ctx) (env : List Def)

/-- C08-1: compatible ⇔ both defined and the same exponents of every base dimension (SI or user-defined),
    `dimensionless` ignored -/
theorem C08_compatible_iff (a b : Operand) :
    compatible cx env a b = true ↔
      ∃ f g, opB cx env a = some f ∧ opB cx env b = some g ∧
        ∀ k, k < nDims cx env → k ≠ cx.dimless → f k = g k := by
  unfold compatible
  constructor
  · intro h
    split at h
    next f g hf hg => exact ⟨f, g, hf, hg, (sameVec_iff cx env f g).mp h⟩
    next => cases h
  · rintro ⟨f, g, hf, hg, h⟩
    simp only [hf, hg]
    exact (sameVec_iff cx env f g).mpr h

/-- … hence an equivalence relation on defined units -/
theorem C08_compatible_refl (a : Operand) (h : (opB cx env a).isSome = true) : compatible cx env a a = true := by
  rw [C08_compatible_iff]
  cases ha : opB cx env a with
  | none => simp [ha] at h
  | some f => exact ⟨f, f, rfl, rfl, fun _ _ _ => rfl⟩

theorem C08_compatible_symm (a b : Operand) (h : compatible cx env a b = true) : compatible cx env b a = true := by
  rw [C08_compatible_iff] at *
  obtain ⟨f, g, hf, hg, hk⟩ := h
  exact ⟨g, f, hg, hf, fun k h1 h2 => (hk k h1 h2).symm⟩

theorem C08_compatible_trans (a b c : Operand) (h1 : compatible cx env a b = true) (h2 : compatible cx env b c = true) :
    compatible cx env a c = true := by
  rw [C08_compatible_iff] at *
  obtain ⟨f, g, hf, hg, hk⟩ := h1
  obtain ⟨g', h, hg', hh, hk'⟩ := h2
  cases hg.symm.trans hg'
  exact ⟨f, h, hf, hh, fun k x y => (hk k x y).trans (hk' k x y)⟩

/-- C08-1': the verdict does not depend on which units is asked about which -/
theorem C08_compatible_comm (a b : Operand) : compatible cx env a b = compatible cx env b a := by
  rw [Bool.eq_iff_iff]
  exact ⟨C08_compatible_symm cx env a b, C08_compatible_symm cx env b a⟩

/-- null or undefined units are compatible with nothing -/
theorem C08_compatible_undefined (a b : Operand) (h : opB cx env a = none ∨ opB cx env b = none) :
    compatible cx env a b = false := by
  unfold compatible
  rcases h with h | h
  · rw [h]
  · rw [h]
    cases opB cx env a <;> rfl

theorem opB_null : opB cx env Operand.null = none := rfl

/-- C08-2a: the order of unit children is irrelevant (multipliers and exponents of every entry) -/
theorem C08_child_order (n : Nat) (cs cs' : List Child) (hn : env[n]? = some (.compound cs)) (h : cs.Perm cs') (i : Nat) :
    mUnits cx env i = mUnits cx (env.set n (.compound cs')) i ∧
    bUnits cx env i = bUnits cx (env.set n (.compound cs')) i :=
  ⟨valueAt_set_congr (mStep cx) hn (fun look => mStep_perm cx look n h) i,
   valueAt_set_congr (bStep cx) hn (fun look => bStep_perm cx look n h) i⟩

/-- C08-2b: indirection through an intermediate units changes nothing -/
theorem C08_indirection (i j : Nat) (hj : j < i) (hi : env[i]? = some (.compound [⟨.user j, 0, 1, 0⟩])) :
    mUnits cx env i = mUnits cx env j ∧ bUnits cx env i = bUnits cx env j :=
  ⟨valueAt_of_step_look (mStep cx) hi hj fun look => mStep_indirect cx look i j,
   valueAt_of_step_look (bStep cx) hi hj fun look => bStep_indirect cx look i j⟩

/-- C08-3a: compatible units have a (positive) factor `10^x` -/
theorem C08_factor_of_compatible (a b : Operand) (h : compatible cx env a b = true) :
    ∃ x y, opM cx env a = some x ∧ opM cx env b = some y ∧ factorLog cx env a b = some (y - x) := by
  obtain ⟨f, g, hf, hg, _⟩ := (C08_compatible_iff cx env a b).mp h
  have ha : (opM cx env a).isSome = true := by
    rw [defined_together, hf]
    rfl
  have hb : (opM cx env b).isSome = true := by
    rw [defined_together, hg]
    rfl
  obtain ⟨x, hx⟩ := Option.isSome_iff_exists.mp ha
  obtain ⟨y, hy⟩ := Option.isSome_iff_exists.mp hb
  exact ⟨x, y, hx, hy, (factorLog_eq_some_iff cx env a b _).mpr ⟨h, x, y, hx, hy, rfl⟩⟩

/-- C08-3b: incompatible, undefined or null units: `scalingFactor` is 0 -/
theorem C08_factor_zero (a b : Operand) (h : compatible cx env a b = false) : factorLog cx env a b = none := by
  unfold factorLog
  rw [h]
  rfl

/-- C08-3c: factor(a,b) · factor(b,a) = 1 -/
theorem C08_factor_inverse (a b : Operand) (x : Q) (h : factorLog cx env a b = some x) :
    factorLog cx env b a = some (-x) := by
  obtain ⟨hc, p, q, hp, hq, rfl⟩ := (factorLog_eq_some_iff cx env a b x).mp h
  exact (factorLog_eq_some_iff cx env b a _).mpr ⟨C08_compatible_symm cx env a b hc, q, p, hq, hp, Rat.neg_sub q p⟩

/-- C08-3d: factor(a,c) = factor(a,b) · factor(b,c) -/
theorem C08_factor_chain (a b c : Operand) (x y : Q) (h1 : factorLog cx env a b = some x)
    (h2 : factorLog cx env b c = some y) : factorLog cx env a c = some (x + y) := by
  obtain ⟨hc1, p, q, hp, hq, rfl⟩ := (factorLog_eq_some_iff cx env a b x).mp h1
  obtain ⟨hc2, q', r, hq', hr, rfl⟩ := (factorLog_eq_some_iff cx env b c y).mp h2
  cases hq.symm.trans hq'
  exact (factorLog_eq_some_iff cx env a c _).mpr ⟨C08_compatible_trans cx env a b c hc1 hc2, p, r, hp, hr,
    (by grind : q - p + (r - q) = r - p)⟩

/-- C08-3e: equivalent ⇔ compatible with factor 1 -/
theorem C08_equivalent_iff (a b : Operand) :
    equivalent cx env a b = true ↔ compatible cx env a b = true ∧ factorLog cx env a b = some 0 := by
  unfold equivalent
  rw [beq_iff_eq]
  exact ⟨fun h => ⟨((factorLog_eq_some_iff cx env a b 0).mp h).1, h⟩, fun h => h.2⟩

/-- C08-3f: factor(a,a) = 1 for every defined units -/
theorem C08_factor_self (a : Operand) (h : (opB cx env a).isSome = true) : factorLog cx env a a = some 0 := by
  obtain ⟨x, y, hx, hy, hf⟩ := C08_factor_of_compatible cx env a a (C08_compatible_refl cx env a h)
  cases hx.symm.trans hy
  rw [hf, Rat.sub_self]

/-- C08-3g: `Units::equivalent` is reflexive on defined units, symmetric and transitive -/
theorem C08_equivalent_refl (a : Operand) (h : (opB cx env a).isSome = true) : equivalent cx env a a = true :=
  (C08_equivalent_iff cx env a a).mpr ⟨C08_compatible_refl cx env a h, C08_factor_self cx env a h⟩

theorem C08_equivalent_symm (a b : Operand) (h : equivalent cx env a b = true) : equivalent cx env b a = true := by
  obtain ⟨hc, hf⟩ := (C08_equivalent_iff cx env a b).mp h
  have hf' := C08_factor_inverse cx env a b 0 hf
  rw [Rat.neg_zero] at hf'
  exact (C08_equivalent_iff cx env b a).mpr ⟨C08_compatible_symm cx env a b hc, hf'⟩

theorem C08_equivalent_trans (a b c : Operand) (h1 : equivalent cx env a b = true) (h2 : equivalent cx env b c = true) :
    equivalent cx env a c = true := by
  obtain ⟨hc1, hf1⟩ := (C08_equivalent_iff cx env a b).mp h1
  obtain ⟨hc2, hf2⟩ := (C08_equivalent_iff cx env b c).mp h2
  have hf := C08_factor_chain cx env a b c 0 0 hf1 hf2
  rw [Rat.add_zero] at hf
  exact (C08_equivalent_iff cx env a c).mpr ⟨C08_compatible_trans cx env a b c hc1 hc2, hf⟩

/-- C08-3h: `scalingFactor` is non-zero exactly for compatible units -/
theorem C08_factor_defined_iff (a b : Operand) : (factorLog cx env a b).isSome = compatible cx env a b := by
  cases hc : compatible cx env a b with
  | false => simp [C08_factor_zero cx env a b hc]
  | true =>
    obtain ⟨x, y, _, _, hf⟩ := C08_factor_of_compatible cx env a b hc
    simp [hf]

/-- C08-4: when prefixes and multipliers sit on children of exponent 1 (everywhere in the environment), the
    code's multiplier is the specification's scale `Σ exponent·(log multiplier + prefix + scale(ref))`, so the
    factor is the ratio of the two SI scales -/
theorem C08_si_ratio (h : ExpOneCarriers env) (i : Nat) : mUnits cx env i = sSpec cx env i := by
  refine valueAt_rel Eq (hnone := rfl) (hlen := rfl) ?_ i
  intro i d d' lf lg hd hd' hl
  cases hd.symm.trans hd'
  obtain rfl : lf = lg := funext hl
  cases d with
  | alias j => rfl
  | compound cs =>
    have hc : ∀ c ∈ cs, childM cx lf c = childS cx lf c := fun c hcm => childM_eq_childS cx lf c (h i cs hd c hcm)
    simp only [mStep, sStep]
    rw [all_congr_mem cs _ _ fun c hcm => congrArg Option.isSome (hc c hcm),
      List.map_congr_left fun c hcm => congrArg (·.getD 0) (hc c hcm)]

/-- … and the hypothesis is needed: `(milli metre)^2` has code scale 10⁻³ but specification scale 10⁻⁶ -/
theorem C08_si_ratio_needs_hypothesis :
    let cx := Cellml.Generated.StdUnits.ctx
    let metre := (Cellml.Generated.StdUnits.stdNames.findIdx? (· = "metre")).getD 0
    let env := [Def.compound [⟨.std metre, -3, 2, 0⟩]]
    mUnits cx env 0 = some (-3) ∧ sSpec cx env 0 = some (-6) := by
  decide +kernel

/-- C08-6 (tables regenerated from utilities.h): every standard unit reduces to the eight SI base
    dimensions, the names line up, and the prefixes are the SI ones -/
theorem C08_std_tables :
    (∀ s ∈ Cellml.Generated.StdUnits.stds, ∀ p ∈ s.base, p.1 < Cellml.Generated.StdUnits.baseNames.length) ∧
    Cellml.Generated.StdUnits.stds.length = Cellml.Generated.StdUnits.stdNames.length ∧
    (∀ b ∈ Cellml.Generated.StdUnits.baseNames, b ∈ Cellml.Generated.StdUnits.stdNames) ∧
    Cellml.Generated.StdUnits.prefixes =
      [("yotta", 24, true), ("zetta", 21, true), ("exa", 18, true), ("peta", 15, true), ("tera", 12, true),
       ("giga", 9, true), ("mega", 6, true), ("kilo", 3, true), ("hecto", 2, true), ("deca", 1, true),
       ("deci", -1, true), ("centi", -2, true), ("milli", -3, true), ("micro", -6, true), ("nano", -9, true),
       ("pico", -12, true), ("femto", -15, true), ("atto", -18, true), ("zepto", -21, true), ("yocto", -24, true),
       ("", 0, true), ("7", 7, true), ("-12", -12, true)] := by
  decide +kernel

/-! non-vacuity: `km` via an intermediate units vs. `metre`: compatible, factor 10^-3, not equivalent -/
example :
    let cx := Cellml.Generated.StdUnits.ctx
    let metre := (Cellml.Generated.StdUnits.stdNames.findIdx? (· = "metre")).getD 0
    let env := [Def.compound [⟨.std metre, 3, 1, 0⟩], Def.compound [⟨.user 0, 0, 1, 0⟩]]
    compatible cx env (.user 1) (.std metre) = true ∧ factorLog cx env (.user 1) (.std metre) = some (-3) ∧
    equivalent cx env (.user 1) (.std metre) = false ∧ ExpOneCarriers env := by
  refine ⟨by decide +kernel, by decide +kernel, by decide +kernel, ?_⟩
  intro i cs hi c hc
  match i with
  | 0 | 1 =>
    cases hi
    cases hc with
    | head => exact Or.inl rfl
    | tail _ h => cases h
  | (k+2) => cases hi

end Cellml.Props.C08
