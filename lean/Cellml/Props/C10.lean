/-
  C10 — `equals()` is an equivalence relation that sees every attribute: property theorems.

  `eqComponent true` / `eqModel true` = the `doEquals` chain with a size test on every kind of child
  (counterfactual `Fixed_sizeTest`); `… false` = the current tree, where variables are matched without a
  size test — a genuine defect that the existing test `Equality.parseMath` pins (known finding).
-/
import Cellml.Equals.Iso
import Cellml.Generated.EqualsFields
namespace Cellml.Props.C10
open Cellml.Equals

/-- C10-1: `equals` on units, variables and resets is exactly equality of every covered attribute, with unit
    children compared up to order (hence an equivalence relation that is false on any differing attribute) -/
theorem C10_units_iff (a b : Units) : eqUnits a b = true ↔ IsoUnits a b := eqUnits_iff a b
theorem C10_variable_iff (a b : Variable) : eqVariable a b = true ↔ IsoVariable a b := eqVariable_iff a b
theorem C10_reset_iff (a b : Reset) : eqReset a b = true ↔ IsoReset a b := eqReset_iff a b

theorem C10_units_equivalence :
    (∀ a, eqUnits a a = true) ∧ (∀ a b, eqUnits a b = true → eqUnits b a = true) ∧
    (∀ a b c, eqUnits a b = true → eqUnits b c = true → eqUnits a c = true) :=
  equivalence_of_iff eqUnits_iff IsoUnits.equivalence

theorem C10_variable_equivalence :
    (∀ a, eqVariable a a = true) ∧ (∀ a b, eqVariable a b = true → eqVariable b a = true) ∧
    (∀ a b c, eqVariable a b = true → eqVariable b c = true → eqVariable a c = true) :=
  equivalence_of_iff eqVariable_iff IsoVariable.equivalence

theorem C10_reset_equivalence :
    (∀ a, eqReset a a = true) ∧ (∀ a b, eqReset a b = true → eqReset b a = true) ∧
    (∀ a b c, eqReset a b = true → eqReset b c = true → eqReset a c = true) :=
  equivalence_of_iff eqReset_iff IsoReset.equivalence

/-- C10-2 (Fixed_sizeTest): component and model equality = isomorphism up to the order of children at every level -/
theorem C10_component_iff (n : Nat) (a b : Component) : eqComponent true n a b = true ↔ IsoComponent n a b :=
  eqComponent_iff n a b
theorem C10_model_iff (n : Nat) (a b : Model) : eqModel true n a b = true ↔ IsoModel n a b := eqModel_iff n a b

/-- … hence reflexive, symmetric, transitive -/
theorem C10_component_equivalence (n : Nat) :
    (∀ a, WithinDepth n a → eqComponent true n a a = true) ∧
    (∀ a b, eqComponent true n a b = true → eqComponent true n b a = true) ∧
    (∀ a b c, eqComponent true n a b = true → eqComponent true n b c = true → eqComponent true n a c = true) := by
  simp only [eqComponent_iff]
  exact ⟨IsoComponent.refl n, fun _ _ => IsoComponent.symm n, fun _ _ _ => IsoComponent.trans n⟩

/-- … false when the numbers of children of any kind differ -/
theorem C10_component_counts (n : Nat) (i₁ n₁ e₁ m₁ : String) (p₁ : Imp) (v₁ : List Variable) (r₁ : List Reset) (k₁ : List Component)
    (i₂ n₂ e₂ m₂ : String) (p₂ : Imp) (v₂ : List Variable) (r₂ : List Reset) (k₂ : List Component)
    (h : v₁.length ≠ v₂.length ∨ r₁.length ≠ r₂.length ∨ k₁.length ≠ k₂.length) :
    eqComponent true (n+1) (.mk i₁ n₁ e₁ m₁ p₁ v₁ r₁ k₁) (.mk i₂ n₂ e₂ m₂ p₂ v₂ r₂ k₂) = false := by
  rw [Bool.eq_false_iff, Ne, eqComponent_iff]
  rintro ⟨-, -, -, -, -, g1, g2, g3⟩
  rcases h with h | h | h
  · exact h g1.length_eq
  · exact h g2.length_eq
  · exact h g3.length_eq

/-- … insensitive to the order of variables, resets and child components -/
theorem C10_component_order (n : Nat) (i nm e m : String) (p : Imp) (v v' : List Variable) (r r' : List Reset)
    (k k' : List Component) (hv : v'.Perm v) (hr : r'.Perm r) (hk : k'.Perm k) (hd : ∀ c ∈ k, WithinDepth n c) :
    eqComponent true (n+1) (.mk i nm e m p v r k) (.mk i nm e m p v' r' k') = true :=
  (eqComponent_iff _ _ _).mpr ⟨rfl, rfl, rfl, rfl, rfl, .of_perm hv.symm fun x _ => IsoVariable.equivalence.refl x,
    .of_perm hr.symm fun x _ => IsoReset.equivalence.refl x, .of_perm hk.symm fun c hc => IsoComponent.refl n c (hd c hc)⟩

/-- C10-3 sensitivity: altering one variable of a component (anything that `Variable::equals` sees: id, name,
    initial value, interface, units and unit children) makes the components unequal, in both directions -/
theorem C10_variable_sensitivity (n : Nat) (i nm e m : String) (p : Imp) (x y : Variable) (rest : List Variable)
    (r : List Reset) (k : List Component) (hxy : eqVariable x y = false) :
    eqComponent true (n+1) (.mk i nm e m p (x :: rest) r k) (.mk i nm e m p (y :: rest) r k) = false ∧
    eqComponent true (n+1) (.mk i nm e m p (y :: rest) r k) (.mk i nm e m p (x :: rest) r k) = false := by
  have E := IsoVariable.equivalence
  have key (a b : Variable) (h : eqComponent true (n+1) (.mk i nm e m p (a :: rest) r k)
      (.mk i nm e m p (b :: rest) r k) = true) : IsoVariable a b := by
    obtain ⟨-, -, -, -, -, hv, -, -⟩ := (eqComponent_iff _ _ _).mp h
    exact permMatch_cancel eqVariable_iff E hv
  rw [Bool.eq_false_iff, Ne, eqVariable_iff] at hxy
  simp only [Bool.eq_false_iff]
  exact ⟨fun h => hxy (key x y h), fun h => hxy (E.symm (key y x h))⟩

/-- the own attributes of a component: any difference makes `equals` false -/
theorem C10_component_fields (n : Nat) (i₁ n₁ e₁ m₁ : String) (p₁ : Imp) (v₁ : List Variable) (r₁ : List Reset) (k₁ : List Component)
    (i₂ n₂ e₂ m₂ : String) (p₂ : Imp) (v₂ : List Variable) (r₂ : List Reset) (k₂ : List Component)
    (h : i₁ ≠ i₂ ∨ n₁ ≠ n₂ ∨ e₁ ≠ e₂ ∨ m₁ ≠ m₂ ∨ p₁ ≠ p₂) :
    eqComponent true (n+1) (.mk i₁ n₁ e₁ m₁ p₁ v₁ r₁ k₁) (.mk i₂ n₂ e₂ m₂ p₂ v₂ r₂ k₂) = false := by
  rw [Bool.eq_false_iff, Ne, eqComponent_iff]
  rintro ⟨g1, g2, g3, g4, g5, -, -, -⟩
  rcases h with h | h | h | h | h
  · exact h g1
  · exact h g2
  · exact h g3
  · exact h g4
  · exact h g5

/-- C10_partial: on component trees with the same number of variables in every component the current code
    coincides with `Fixed_sizeTest`, so all of the above holds there -/
theorem C10_partial_uniform (k n : Nat) (a b : Component) (ha : UniformVars k n a) (hb : UniformVars k n b) :
    eqComponent false n a b = eqComponent true n a b := eqComponent_agree k n a b ha hb

def noImp : Imp := ⟨none, ""⟩
def wv : Variable := ⟨"", "v", "", "", none⟩
def cEmpty : Component := .mk "" "c" "" "" noImp [] [] []
def cOneVar : Component := .mk "" "c" "" "" noImp [wv] [] []
def pAB : Component := .mk "" "p" "" "" noImp [] [] [cOneVar, cEmpty]
def pBA : Component := .mk "" "p" "" "" noImp [] [] [cEmpty, cOneVar]

/-- refuted on the current tree: symmetry (`c{}` equals `c{v}`, not conversely) … -/
theorem C10_refuted_symmetry : eqComponent false 2 cEmpty cOneVar = true ∧ eqComponent false 2 cOneVar cEmpty = false := by
  decide
/-- … and insensitivity to child order (a parent does not equal itself with its two children swapped): `cOneVar`,
    scanned first, takes `cEmpty` (no size test: no variables match any), and `cEmpty` is left with `cOneVar` -/
theorem C10_refuted_order : eqComponent false 3 pAB pBA = false ∧ eqComponent true 3 pAB pBA = true := by decide

example : WithinDepth 3 pAB ∧ eqComponent true 3 pAB pAB = true := by
  refine ⟨?_, by decide⟩
  intro c hc
  simp only [List.mem_cons, List.not_mem_nil, or_false] at hc
  rcases hc with rfl | rfl
  all_goals
    intro k hk
    cases hk
example : UniformVars 0 2 cEmpty := ⟨rfl, fun _ h => by cases h⟩

/-- T-tie: the data members each `doEquals()` mentions and the base-class comparisons it chains to are the ones the
    equality model (`Cellml/Equals/Model.lean`) compares: identifier; name; import source and reference; URL; child
    components and encapsulation identifier; initial value, interface type and units; the seven reset fields; the
    unit definitions with their five fields; math and resets (variables through `equalEntities`); the units of a model.
    A comparison added to or dropped from the code re-opens this obligation (and the model has to follow). -/
theorem equals_fields_as_modelled :
    Cellml.Generated.EqualsFields.rows =
      [("Entity", ["mId"], []),
       ("NamedEntity", ["mName"], ["Entity"]),
       ("ImportedEntity", ["mImportReference", "mImportSource", "mPimpl"], []),
       ("ImportSource", ["mUrl"], ["Entity"]),
       ("ComponentEntity", ["mComponents", "mEncapsulationId"], ["NamedEntity"]),
       ("Variable", ["mInitialValue", "mInterfaceType", "mUnits"], ["NamedEntity"]),
       ("Reset", ["mOrder", "mResetValue", "mResetValueId", "mTestValue", "mTestValueId", "mTestVariable", "mVariable"], ["Entity"]),
       ("Units", ["mExponent", "mId", "mMultiplier", "mPrefix", "mReference", "mUnitDefinitions"], ["ImportedEntity", "NamedEntity"]),
       ("Component", ["mMath", "mResets"], ["ComponentEntity", "ImportedEntity"]),
       ("Model", ["mUnits"], ["ComponentEntity"])] :=
  rfl

end Cellml.Props.C10
