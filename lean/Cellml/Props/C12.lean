/-
  C12 — operations are pure: property theorems.

  * `writers_known`, `statics_known` (T-tie, regenerated from /repo/src on every run): the only calls that write
    process-wide state are the libxml2 calls of printer.cpp, xmlnode.cpp and xmldoc.cpp, and the only static variables
    that are not const are the decompressed MathML DTD (written once, same value) and a debugging aid.  Any new one
    re-opens the obligation.
  * The full statement — what a call returns does not depend on the calls made before it — is FALSE of the model and of
    the implementation (`history_dependent`: a parse after a print drops the white space of MathML, a parse after a parse
    keeps it); the repair is blocked by an existing test, so this is a known finding, and the model keeps predicting
    the observation exactly (`after_print`, `after_parse_math`, `after_depends_on_last_writer`), which the check compares
    with the implementation on random histories.
  * For the library with the flag restored, the statement holds (`fixed_history_independent`).
  That repeated calls, fresh instances and unrelated earlier calls give the same content, issues and text, and that the
  services leave their argument unchanged, is decided on the implementation (checks/C12.py).
-/
import Cellml.Purity.Model
import Cellml.Generated.Globals
namespace Cellml.Props.C12
open Cellml.Purity Cellml.Generated.Globals

def allowedWriters : List (String × String) :=
  [("printer.cpp", "xmlKeepBlanksDefault"), ("xmlnode.cpp", "xmlKeepBlanksDefault"),
   ("xmldoc.cpp", "xmlInitParser"), ("xmldoc.cpp", "xmlCleanupParser"), ("xmldoc.cpp", "xmlSetStructuredErrorFunc")]

def allowedStatics : List (String × String) := [("xmldoc.cpp", "mathMLDTD"), ("debug.cpp", "generatorProfile")]

theorem writers_known : writers.all (fun w => allowedWriters.contains w) = true := by decide +kernel
theorem statics_known : statics.all (fun s => allowedStatics.contains s) = true := by decide +kernel

theorem final_append (g : G) (a b : List Op) : final g (a ++ b) = final (final g a) b := by
  induction a generalizing g with
  | nil => rfl
  | cons x t ih => exact ih _

theorem final_of_no_write (g : G) (l : List Op) (hl : ∀ o ∈ l, ∀ g, (step g o).1 = g) : final g l = g := by
  induction l with
  | nil => rfl
  | cons a t ih =>
    rw [final, hl a List.mem_cons_self]
    exact ih fun o ho => hl o (List.mem_cons_of_mem _ ho)

theorem after_writer (w : Op) (b : G) (hw : ∀ g, (step g w).1 = b) (h others : List Op)
    (ho : ∀ o ∈ others, ∀ g, (step g o).1 = g) (m : Bool) : after (h ++ [w] ++ others) (.parse m) = some b := by
  unfold after
  rw [final_append, final_append, final_of_no_write _ others ho]
  exact congrArg some (hw _)

theorem others_no_write {others : List Op} (ho : ∀ o ∈ others, o = .other) :
    ∀ o ∈ others, ∀ g, (step g o).1 = g := by
  intro o ho' g
  rw [ho o ho']
  rfl

/-- a parse right after a print (any number of other calls in between) drops the white space -/
theorem after_print (h : List Op) (others : List Op) (ho : ∀ o ∈ others, o = .other) (m : Bool) :
    after (h ++ [.print] ++ others) (.parse m) = some false :=
  after_writer .print false (fun _ => rfl) h others (others_no_write ho) m

/-- a parse right after a parse of a document with MathML keeps it -/
theorem after_parse_math (h : List Op) (others : List Op) (ho : ∀ o ∈ others, o = .other) (m : Bool) :
    after (h ++ [.parse true] ++ others) (.parse m) = some true :=
  after_writer (.parse true) true (fun _ => rfl) h others (others_no_write ho) m

/-- what a call observes depends on the history only through the flag -/
theorem after_depends_on_last_writer (h1 h2 : List Op) (op : Op) (hg : final init h1 = final init h2) :
    after h1 op = after h2 op := by
  unfold after
  rw [hg]

/-- **the full statement is false** (known finding C12-keep-blanks): two histories, one call, two answers -/
theorem history_dependent : ∃ h1 h2 op, after h1 op ≠ after h2 op :=
  ⟨[.print], [.parse true], .parse true, by decide⟩

theorem finalFixed_eq (g : G) (l : List Op) : finalFixed g l = g := by
  induction l with
  | nil => rfl
  | cons a t ih => cases a <;> exact ih

/-- with the flag restored by the printer, no history changes what a call observes -/
theorem fixed_history_independent (h1 h2 : List Op) (op : Op) : afterFixed h1 op = afterFixed h2 op := by
  unfold afterFixed
  rw [finalFixed_eq, finalFixed_eq]

example : run init [.parse true, .print, .parse true, .parse true, .other, .print, .parse false, .parse true, .print, .analyse true, .parse true] =
    [some true, none, some false, some true, none, none, some false, some false, none, none, some true] := by decide

end Cellml.Props.C12
