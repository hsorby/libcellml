import Cellml.Num.Model
import Cellml.Num.Spec
import Cellml.Num.Recognisers
import Cellml.Num.Grammar
import Cellml.Num.Conversions
import Cellml.Props.C16
import Cellml.Lists
import Cellml.Logger.Model
import Cellml.Logger.Proofs
import Cellml.Generated.Rules
import Cellml.Generated.ElementTypes
import Cellml.Props.C15
import Cellml.Engine.Logger
import Cellml.Equiv.Model
import Cellml.Equiv.Dfs
import Cellml.Equiv.Cache
import Cellml.Props.C18
import Cellml.Engine.Equiv
import Cellml.Units.Model
import Cellml.Units.Eval
import Cellml.Units.Laws
import Cellml.Generated.StdUnits
import Cellml.Props.C08
import Cellml.Engine.Units
import Cellml.Equals.Greedy
import Cellml.Equals.Model
import Cellml.Equals.Match
import Cellml.Equals.Iso
import Cellml.Engine.Entity
import Cellml.Engine.Equals
import Cellml.Props.C10
import Cellml.Annot.Hex
import Cellml.Annot.Model
import Cellml.Annot.Proofs
import Cellml.Props.C13
import Cellml.Engine.Annot
import Cellml.Repair.Model
import Cellml.Props.C19
import Cellml.Clone.Model
import Cellml.Clone.Proofs
import Cellml.Clone.Bridge
import Cellml.Props.C11
import Cellml.Heap.Model
import Cellml.Heap.Proofs
import Cellml.Heap.Acyclic
import Cellml.Heap.Equiv
import Cellml.Heap.Step
import Cellml.Props.C09
import Cellml.Gen.Model
import Cellml.Generated.Profiles
import Cellml.Engine.Expr
import Cellml.Props.C03
import Cellml.Struct.Proofs
import Cellml.Generated.Methods
import Cellml.Engine.Struct
import Cellml.Props.C17
import Cellml.Analyser.Model
import Cellml.Analyser.Lift
import Cellml.Engine.Analyse
import Cellml.Props.C05
import Cellml.Analyser.External
import Cellml.Props.C20
import Cellml.Xml.Escape
import Cellml.Props.C02
import Cellml.Engine.Xml
import Cellml.Legacy.Model
import Cellml.Legacy.GroupLemmas
import Cellml.Props.C14
import Cellml.Engine.Legacy
import Cellml.Valid.Model
import Cellml.Props.C04
import Cellml.Engine.Valid
import Cellml.Import.Model
import Cellml.Engine.World
import Cellml.Import.Proofs
import Cellml.Import.Exact
import Cellml.Props.C07
import Cellml.Flatten.Model
import Cellml.Engine.Flatten
import Cellml.Props.C06
import Cellml.Generated.Globals
import Cellml.Purity.Model
import Cellml.Props.C12
import Cellml.Engine.Purity
import Cellml.Crash.Model
import Cellml.Props.C01
import Cellml.Engine.Crash
